import Gopki.Lemmas.DerLemmas
import Gopki.Model.Pkcs8
/-! What the PKCS#8 round trip (`Pkcs8Round.lean`) needs of the model's ingredients: the fixed-width scalar, and the curve
    table (orders, lookups by OID). -/
namespace Pkcs8
open Der Asn1

/-- `bitLen n` is the least number of bits that hold `n` -/
theorem bitLen_le_iff {n k : Nat} : bitLen n ≤ k ↔ n < 2 ^ k := by
  unfold bitLen
  split
  · rename_i h; subst h; exact iff_of_true (Nat.zero_le k) (Nat.two_pow_pos k)
  · rename_i h; exact Nat.log2_lt h

theorem lt_width {c : Curve} {d : Nat} (h : d < c.order) : d < 256 ^ scalarWidth c := by
  rw [scalarWidth, show (256 : Nat) = 2 ^ 8 by decide, ← Nat.pow_mul]
  exact Nat.lt_trans h (bitLen_le_iff.mp (by omega))

theorem natBEFixed_length (w d : Nat) (h : d < 256 ^ w) : (natBEFixed w d).length = w := by
  have := natBE_length_le w d h
  simp only [natBEFixed, List.length_append, List.length_replicate]
  omega

theorem beNat_natBEFixed (w d : Nat) : beNat (natBEFixed w d) = d := by
  unfold natBEFixed; rw [beNat_replicate_zero, beNat_natBE]

theorem decodePrefix_enc (t : Tlv) (h : t.wf = true) : decodePrefix t.enc = some t := by
  rw [decodePrefix, dec_enc_self t h]; rfl

/-- `hexNat` of a string given by its characters.  A string literal unifies with `String.ofList _`, and a fold over
    the characters costs the kernel a tenth of what decoding the literal's UTF-8 bytes (`String.toList`) does. -/
theorem hexNat_ofList (l : List Char) : hexNat (String.ofList l) =
    l.foldl (fun a c => a * 16 + (if '0' ≤ c ∧ c ≤ '9' then c.toNat - 48 else if 'a' ≤ c ∧ c ≤ 'f' then c.toNat - 87 else c.toNat - 55)) 0 := by
  simp [hexNat]

/-- every group order is a number of 2 … 521 bits: the only place where the order strings are evaluated -/
theorem order_bounds : ∀ c ∈ curves, 1 < c.order ∧ c.order < 2 ^ 521 := by
  intro c hc
  simp only [curves, List.mem_cons, List.not_mem_nil, or_false] at hc
  -- `rw` finds the literal as an instance of `String.ofList _` by unification
  rcases hc with rfl | rfl | rfl | rfl | rfl | rfl | rfl | rfl | rfl | rfl <;>
    (rw [Curve.order, hexNat_ofList]; decide +kernel)

theorem find?_key {α β : Type} [DecidableEq β] (key : α → β) (l : List α) (hn : (l.map key).Nodup) (a : α) (ha : a ∈ l) :
    l.find? (fun x => key x = key a) = some a := by
  induction l with
  | nil => cases ha
  | cons x l ih =>
    rw [List.map_cons, List.nodup_cons] at hn
    rcases List.mem_cons.mp ha with rfl | ha
    · simp
    · have hne : key x ≠ key a := fun h => hn.1 (h ▸ List.mem_map_of_mem ha)
      simp [hne, ih hn.2 ha]

theorem oids_nodup : (curves.map (·.oid)).Nodup := by decide

theorem curve_facts : ∀ c ∈ curves, scalarWidth c ≤ 66 ∧ 0 < c.order ∧ namedCurveFromOID c.oid = some c ∧
    X509.decOid (oidContent c.oid) = some c.oid ∧ (oidContent c.oid).length ≤ 12 := by
  intro c hc
  obtain ⟨h1, h521⟩ := order_bounds c hc
  have hoid : ∀ c ∈ curves, X509.decOid (oidContent c.oid) = some c.oid ∧ (oidContent c.oid).length ≤ 12 := by decide
  -- 521 + 7 = 8 · 66
  exact ⟨Nat.div_le_of_le_mul (Nat.add_le_add_right (bitLen_le_iff.mpr h521) 7), Nat.lt_trans Nat.one_pos h1,
    find?_key _ _ oids_nodup c hc, hoid c hc⟩

end Pkcs8
