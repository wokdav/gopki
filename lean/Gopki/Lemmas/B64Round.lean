import Gopki.Base.B64
import Gopki.Model.V1
/-! The decoder gopki uses (`V1.goB64Decode`, Go's lenient one behind CR / LF removal) reads what `B64.enc` writes. -/
namespace B64

theorem enc_no_nl (bs : List UInt8) : (enc bs).filter (fun b => b ≠ 13 ∧ b ≠ 10) = enc bs :=
  List.filter_eq_self.mpr <| List.all_eq_true.mp <|
    enc_all (fun i => decide_eq_true ⟨alpha_ne rfl i, alpha_ne rfl i⟩) (by decide) bs

end B64

namespace V1
open B64

/-- **any wrapping**: a text that is the base64 encoding of `bs` with CR / LF inserted anywhere (a wrapped block
    scalar, `openssl base64` output, CRLF files) decodes to exactly `bs`, for every length -/
theorem goB64Decode_wrapped (bs : Der.Bytes) (l : Der.Bytes)
    (h : l.filter (fun b => b ≠ 13 ∧ b ≠ 10) = B64.enc bs) : goB64Decode l = some bs := by
  unfold goB64Decode
  rw [h]
  exact decLenient_enc bs

theorem goB64Decode_enc (bs : Der.Bytes) : goB64Decode (B64.enc bs) = some bs :=
  goB64Decode_wrapped bs _ (B64.enc_no_nl bs)
end V1
