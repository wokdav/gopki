import Gopki.Base.Asn1
import Gopki.Spec.X509
/-! INTEGER content of a natural number: `natIntBytes_cases` says when the `00` octet is put in front; sign and value, minimality and the length bound each follow from it; the contents of 0 and 1. -/
namespace X509
open Der

/-! what the readers do with a content, by its first octet -/

theorem decInt_of_lt {b : UInt8} (bs : Bytes) (h : b < 128) : decInt (b :: bs) = some (beNat (b :: bs)) := by
  rw [decInt, if_neg (UInt8.not_le.mpr h)]; rfl

theorem decInt_of_ge {b : UInt8} (bs : Bytes) (h : 128 ≤ b) :
    decInt (b :: bs) = some ((beNat (b :: bs) : Int) - 256 ^ (bs.length + 1)) := by
  rw [decInt, if_pos h]; rfl

theorem intCanonical_cons (a : UInt8) (l : Bytes) :
    intCanonical (a :: l) = true ↔ ∀ b ∈ l.head?, (a = 0 → 128 ≤ b) ∧ (a = 0xff → b < 128) := by
  cases l <;> simp [intCanonical, ← Decidable.imp_iff_not_or]

end X509

namespace Asn1
open Der X509

/-- `00` goes in front of the minimal octets of `n` exactly when there are none (`n = 0`) or the first has its top bit set -/
theorem natIntBytes_cases (n : Nat) :
    (natIntBytes n = 0 :: natBE n ∧ ∀ b ∈ (natBE n).head?, 128 ≤ b) ∨
    (∃ b bs, natBE n = b :: bs ∧ natIntBytes n = b :: bs ∧ b < 128) := by
  unfold natIntBytes
  cases natBE n with
  | nil => exact .inl ⟨rfl, by simp⟩
  | cons b bs =>
    by_cases h : b ≥ 128
    · exact .inl ⟨if_pos h, by simpa using h⟩
    · exact .inr ⟨b, bs, rfl, if_neg h, UInt8.not_le.mp h⟩

theorem natIntBytes_value (n : Nat) : ∃ b bs, natIntBytes n = b :: bs ∧ b < 128 ∧ beNat (b :: bs) = n := by
  rcases natIntBytes_cases n with ⟨h, _⟩ | ⟨b, bs, hl, h, hlt⟩
  · exact ⟨0, _, h, by decide, by rw [beNat_cons, beNat_natBE]; simp⟩
  · exact ⟨b, bs, h, hlt, hl ▸ beNat_natBE n⟩

/-- no redundant leading octet: `00` is followed by an octet with the top bit set; without it the first octet is not `00`
    (the digits are minimal) and, being below 128, not `ff` -/
theorem natIntBytes_canonical (n : Nat) : intCanonical (natIntBytes n) = true := by
  rcases natIntBytes_cases n with ⟨h, hp⟩ | ⟨b, bs, hl, h, hlt⟩
  · rw [h, intCanonical_cons]; exact fun b hb => ⟨fun _ => hp b hb, fun h0 => absurd h0 (by decide)⟩
  · have h0 : b ≠ 0 := natBE_head_ne_zero n b (by rw [hl]; rfl)
    rw [h, intCanonical_cons]
    exact fun c _ => ⟨fun e => absurd e h0, fun e => absurd (e ▸ hlt) (by decide)⟩

/-- `k + 1` content octets suffice below `128 · 256^k`: at that length the top octet is below 128 and no `00` is
    put in front (`k = 19`: a serial drawn below 2^159 has at most 20) -/
theorem natIntBytes_length_le (k n : Nat) (h : n < 128 * 256 ^ k) : (natIntBytes n).length ≤ k + 1 := by
  rcases natIntBytes_cases n with ⟨hc, hp⟩ | ⟨b, bs, hl, hc, _⟩
  · rw [hc, List.length_cons, Nat.add_le_add_iff_right]
    cases hl : natBE n with
    | nil => exact Nat.zero_le k
    | cons b bs =>
      have hn : beNat (natBE n) = n := beNat_natBE n
      rw [hl, beNat_cons] at hn
      have hb128 : 128 ≤ b.toNat := UInt8.le_iff_toNat_le.mp (hp b (by rw [hl]; rfl))
      have : 128 * 256 ^ bs.length ≤ b.toNat * 256 ^ bs.length := Nat.mul_le_mul_right _ hb128
      -- so `256 ^ bs.length < 256 ^ k`
      exact (Nat.pow_lt_pow_iff_right (by decide : 1 < 256)).mp
        (Nat.lt_of_mul_lt_mul_left (a := 128) (Nat.lt_of_le_of_lt (Nat.le_trans this (Nat.le.intro hn)) h))
  · rw [hc, ← hl]
    exact natBE_length_le (k + 1) n (Nat.lt_of_lt_of_le h (Nat.pow_succ' ▸ Nat.mul_le_mul_right _ (by decide)))

theorem intBytes_one : intBytes 1 = [1] := by
  show natIntBytes 1 = [1]
  have h : natBE 1 = [1] := by rw [natBE]; simp [natBE]
  simp [natIntBytes, h]

theorem intBytes_zero : intBytes 0 = [0] := by
  show natIntBytes 0 = [0]
  simp [natIntBytes, natBE]

end Asn1
