import Gopki.Lemmas.CertWf
/-! From the signing pipeline to the hypotheses of the certificate theorems: what `Gen.signBody` returns satisfies
    `CertWf.TbsOk` whenever the ingredients do (key material, names, constant extensions) and nothing is manipulated. -/
namespace CertPipeline
open Der Asn1 X509 Config CertWf Gen

/-- a builder whose product has an acceptable OID: constants carry their own, the two hashed identifiers have fixed ones -/
def BuilderOk : Builder → Prop
  | .constant e => OidOk e.oid
  | _ => True

theorem oidOk_of_compile (b : Builder) (ctx : Context) (iss : IssuerContext) (e : Cert.Ext) (hb : BuilderOk b)
    (h : compile b ctx iss = .ok e) : OidOk e.oid := by
  cases b with
  | constant e' => cases h; exact hb
  | overrideNeeded => cases h
  | subjectKeyIdHash crit => cases h; exact oidOk_of_oidOkB Cert.oidSubjectKeyId (by decide)
  | authorityKeyIdHash crit =>
    simp only [compile] at h
    split at h <;> cases h
    exact oidOk_of_oidOkB Cert.oidAuthorityKeyId (by decide)

theorem algOk_of_sigAlgId (alg : Nat) (a : Gen.AlgId) (h : sigAlgId alg = some a) : AlgOk a := by
  have htab : ∀ i : Fin 8, ∀ x ∈ sigAlgId i, Shape.algOkB x = true := by decide
  have hlt : alg < 8 := by
    refine Nat.lt_of_not_le fun hge => ?_
    simp [sigAlgId, List.getElem?_eq_none (l := sigAlgTable) hge] at h
  exact algOk_of_algOkB a (htab ⟨alg, hlt⟩ a h)

/-- **the signed body meets the hypotheses of the certificate theorems** whenever the inner signature algorithm is not
    manipulated, the names and the key material are acceptable and the builders yield acceptable OIDs -/
theorem signBody_tbsOk (ctx : Context) (iss : IssuerContext) (alg : Nat) (tbs : Gen.Tbs) (outer : Gen.AlgId) (k : PrivKey)
    (h : signBody ctx iss alg = .ok (tbs, outer, k)) (hno : ctx.tbs.sigAlg = none)
    (hiss : ∀ a ∈ iss.issuerDn, OidOk a.oid) (hsubj : ∀ a ∈ ctx.tbs.subject, OidOk a.oid)
    (hkeyAlg : AlgOk ctx.tbs.spki.alg) (hkeyBits : BitsOk ctx.tbs.spki.bits) (hb : ∀ b ∈ ctx.builders, BuilderOk b) :
    TbsOk tbs ∧ AlgOk outer := by
  obtain ⟨exts, _, houter, hexts, _, rfl⟩ := signBody_ok h
  have hout := algOk_of_sigAlgId alg outer houter
  refine ⟨{ sigAlg := ?_, issuer := hiss, subject := hsubj, spkiAlg := hkeyAlg, spkiBits := hkeyBits, exts := ?_ }, hout⟩
  · intro a ha
    rw [hno] at ha
    cases ha; exact hout
  · intro e he
    obtain ⟨b, hbm, hbe⟩ := List.mem_of_mapM_ok hexts e he
    exact oidOk_of_compile b ctx iss e (hb b hbm) hbe

end CertPipeline
