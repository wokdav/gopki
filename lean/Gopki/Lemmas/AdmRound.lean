import Gopki.Lemmas.Readers
/-! CommonPKI AdmissionSyntax: what the model of `Admission.marshal` writes is read back by the decoder written
    from the CommonPKI ASN.1 (`Spec/Ext.lean`) as exactly the configured tree.  Per level: the tree the writer
    returns (`naT`, `piT`, `admsT`, `admT`), that it returns it, that its tags are valid, that the reader inverts it.
    Each OPTIONAL member is one use of `SpecExt.takeIf_opt` (reading) or `optR_bind` (writing); the size of the
    encoding enters once, at the top. -/
namespace AdmRound
open Der Asn1 X509 Cert SpecExt ExtRound

theorem takeIf_hit {α : Type} (p : Tlv → Option α) (x : Tlv) (l : List Tlv) (a : α) (h : p x = some a) :
    takeIf p (x :: l) = (some a, l) := by simp [takeIf, h]

theorem takeIf_skip {α : Type} (p : Tlv → Option α) (l : List Tlv) (h : ∀ t, l.head? = some t → p t = none) :
    takeIf p l = (none, l) := by
  cases l with
  | nil => rfl
  | cons t r => simp [takeIf, h t rfl]

def NaOk (n : NamingAuthority) : Prop := (n.oid = [] ∨ OidOk n.oid) ∧ ia5Valid n.url = true

def naT (n : NamingAuthority) : Tlv :=
  tSeq ((if n.oid.isEmpty then [] else [tOid n.oid]) ++ (if n.url.isEmpty then [] else [tIA5 n.url]) ++
        (if n.text.isEmpty then [] else [tUtf8 n.text]))

theorem oidOk_of_ne {n : NamingAuthority} (h : NaOk n) (hne : ¬ n.oid.isEmpty = true) : OidOk n.oid :=
  h.1.resolve_left fun h0 => hne (List.isEmpty_iff.mpr h0)

theorem namingAuthorityTlv_eq (n : NamingAuthority) (h : NaOk n) : namingAuthorityTlv n = .ok (naT n) := by
  unfold namingAuthorityTlv
  simp only [optR_bind fun hne => oidR_eq (oidOk_of_ne h hne), optR_bind fun _ => ia5R_eq h.2]
  rfl

theorem tagsOk_ia5 (s : String) : tagsOk (tIA5 s) = true := rfl

theorem tagsOk_naT (n : NamingAuthority) : tagsOk (naT n) = true := by
  simp [naT, tagsOk_ia5]

theorem decNamingAuthority_naT (n : NamingAuthority) (h : NaOk n) : decNamingAuthority (naT n) = some n := by
  simp only [naT, decNamingAuthority, tSeq, List.append_assoc]
  rw [takeIf_opt (fun hne => decOidT_tOid (oidOk_of_ne h hne))
        (rejects_opt (fun _ => rfl) (rejects_opt_last fun _ => rfl)),
    takeIf_opt (fun _ => decIa5T_tIA5 _) (rejects_opt_last fun _ => rfl),
    takeIf_opt_last fun _ => decDirString_tUtf8 _]
  simp only [List.isEmpty_nil, if_true]
  rw [getD_opt List.isEmpty_iff.mp, getD_opt String.isEmpty_iff.mp, getD_opt String.isEmpty_iff.mp]

def PiOk (p : ProfessionInfo) : Prop :=
  NaOk p.namingAuthority ∧ (∀ o ∈ p.oids, OidOk o) ∧ printableValid p.registrationNumber = true

def piT (p : ProfessionInfo) : Tlv :=
  tSeq ((if p.namingAuthority.isZero then [] else [tExplicit 0 (naT p.namingAuthority)]) ++
        (if p.items.isEmpty then [] else [tSeq (p.items.map tUtf8)]) ++
        (if p.oids.isEmpty then [] else [tSeq (p.oids.map tOid)]) ++
        (if p.registrationNumber.isEmpty then [] else [tPrintable p.registrationNumber]) ++
        (if p.addProfessionInfo.isEmpty then [] else [tOctet p.addProfessionInfo]))

theorem professionInfoTlv_eq (p : ProfessionInfo) (h : PiOk p) : professionInfoTlv p = .ok (piT p) := by
  have ho : p.oids.mapM oidR = .ok (p.oids.map tOid) := List.mapM_eq_pure_map fun o ho => oidR_eq (h.2.1 o ho)
  unfold professionInfoTlv
  simp only [optR_bind fun _ => namingAuthorityTlv_eq _ h.1, optR_bind fun _ => ho,
    optR_bind fun _ => printableR_eq h.2.2]
  rfl

theorem tagsOk_piT (p : ProfessionInfo) : tagsOk (piT p) = true := by
  simp [piT, tagsOk_naT]

theorem items_reject_oids (oids : List Oid) (hne : ¬ oids.isEmpty = true) : decSeqOf decDirString (.cons 0x30 (oids.map tOid)) = none := by
  cases oids with
  | nil => exact absurd rfl hne
  | cons o os => rfl

theorem eq_zero_of_isZero (n : NamingAuthority) (h : n.isZero = true) : n = ⟨[], "", ""⟩ := by
  cases n with | mk oid url text =>
  simp only [NamingAuthority.isZero, Bool.and_eq_true, List.isEmpty_iff, String.isEmpty_iff] at h
  obtain ⟨⟨rfl, rfl⟩, rfl⟩ := h
  rfl

-- which reader leaves which later member alone: each by computation, the identifier octets differ
@[simp] theorem rej_e0_seq {α : Type} (f : Tlv → Option α) (xs : List Tlv) : decExplicit0 f (Tlv.cons 0x30 xs) = none := rfl
@[simp] theorem rej_e0_printable {α : Type} (f : Tlv → Option α) (s : String) : decExplicit0 f (tPrintable s) = none := rfl
@[simp] theorem rej_e0_octet {α : Type} (f : Tlv → Option α) (b : Bytes) : decExplicit0 f (tOctet b) = none := rfl
@[simp] theorem rej_e1_seq {α : Type} (f : Tlv → Option α) (xs : List Tlv) : decExplicit1 f (Tlv.cons 0x30 xs) = none := rfl
@[simp] theorem rej_seq_printable {α : Type} (f : Tlv → Option α) (s : String) : decSeqOf f (tPrintable s) = none := rfl
@[simp] theorem rej_seq_octet {α : Type} (f : Tlv → Option α) (b : Bytes) : decSeqOf f (tOctet b) = none := rfl
@[simp] theorem rej_printable_octet (b : Bytes) : decPrintableT (tOctet b) = none := rfl

theorem decProfessionInfo_piT (p : ProfessionInfo) (h : PiOk p) : decProfessionInfo (piT p) = some p := by
  simp only [piT, decProfessionInfo, tSeq, List.append_assoc]
  -- each reader takes its own member and none of the later ones: `fun _ => rfl` stands for one of the `rej_` facts, only items / OIDs need a reason
  rw [takeIf_opt (fun _ => (decExplicit0_tExplicit _ _).trans (decNamingAuthority_naT _ h.1))
        (rejects_opt (fun _ => rfl) (rejects_opt (fun _ => rfl) (rejects_opt (fun _ => rfl) (rejects_opt_last fun _ => rfl)))),
    takeIf_opt (fun _ => decSeqOf_map fun s _ => decDirString_tUtf8 s)
        (rejects_opt (items_reject_oids _) (rejects_opt (fun _ => rfl) (rejects_opt_last fun _ => rfl))),
    takeIf_opt (fun _ => decSeqOf_map fun o ho => decOidT_tOid (h.2.1 o ho))
        (rejects_opt (fun _ => rfl) (rejects_opt_last fun _ => rfl)),
    takeIf_opt (fun _ => decPrintableT_tPrintable _) (rejects_opt_last fun _ => rfl),
    takeIf_opt_last (p := decOctetsT) (x := tOctet _) fun _ => rfl]
  simp only [List.isEmpty_nil, if_true]
  rw [getD_opt (eq_zero_of_isZero _), getD_opt List.isEmpty_iff.mp, getD_opt List.isEmpty_iff.mp,
    getD_opt String.isEmpty_iff.mp, getD_opt List.isEmpty_iff.mp]

def AdmsOk (a : Admissions) : Prop := NaOk a.namingAuthority ∧ ∀ p ∈ a.professionInfos, PiOk p

def admsT (a : Admissions) : Tlv :=
  tSeq ((match a.admissionAuthority with | some g => [tExplicit 0 g.marshal] | none => []) ++
        (if a.namingAuthority.isZero then [] else [tExplicit 1 (naT a.namingAuthority)]) ++
        (if a.professionInfos.isEmpty then [] else [tSeq (a.professionInfos.map piT)]))

theorem admissionsTlv_eq (a : Admissions) (h : AdmsOk a) : admissionsTlv a = .ok (admsT a) := by
  have hp : a.professionInfos.mapM professionInfoTlv = .ok (a.professionInfos.map piT) :=
    List.mapM_eq_pure_map fun p hp => professionInfoTlv_eq p (h.2 p hp)
  unfold admissionsTlv
  simp only [optR_bind fun _ => namingAuthorityTlv_eq _ h.1, hp]
  simp only [bind, Except.bind, pure, List.isEmpty_map]
  rfl

theorem tagsOk_admsT (a : Admissions) : tagsOk (admsT a) = true := by
  unfold admsT
  cases a.admissionAuthority <;> simp [tagsOk_naT, tagsOk_marshal, tagsOk_piT]

@[simp] theorem rej_e0_e1 {α : Type} (f : Tlv → Option α) (t : Tlv) : decExplicit0 f (tExplicit 1 t) = none := rfl

/-- the authority member is a `match` in the writer: bare in AdmissionSyntax, under [0] in Admissions -/
theorem takeIf_authority (p : Tlv → Option GeneralName) (f : GeneralName → Tlv) {au : Option GeneralName} {rest : List Tlv}
    (hf : ∀ g, p (f g) = some g) (hr : ∀ t ∈ rest, p t = none) :
    takeIf p ((match au with | some g => [f g] | none => []) ++ rest) = (au, rest) := by
  cases au with
  | some g => exact takeIf_hit _ _ _ _ (hf g)
  | none => exact takeIf_skip _ _ fun t ht => hr t (List.mem_of_mem_head? ht)

theorem decAdmissions_admsT (a : Admissions) (h : AdmsOk a) : decAdmissions (admsT a) = some a := by
  have hP : (a.professionInfos.map piT).mapM decProfessionInfo = some a.professionInfos :=
    List.mapM_map_eq_some_self fun p hp => decProfessionInfo_piT p (h.2 p hp)
  simp only [admsT, decAdmissions, tSeq, List.append_assoc]
  rw [takeIf_authority (decExplicit0 decGeneralName) (fun g => tExplicit 0 g.marshal) decGeneralName_marshal
        (rejects_opt (fun _ => rfl) (rejects_opt_last fun _ => rfl)),
    takeIf_opt (fun _ => (decExplicit1_tExplicit _ _).trans (decNamingAuthority_naT _ h.1)) (rejects_opt_last fun _ => rfl)]
  rw [getD_opt (eq_zero_of_isZero _)]
  -- the reader tells "no profession infos" from "some" by whether the SEQUENCE is there
  by_cases c : a.professionInfos.isEmpty = true
  · rw [if_pos c, ← List.isEmpty_iff.mp c]  -- the `[]` the reader returns is `a.professionInfos`
  · simp only [if_neg c, hP, Option.map_some]

def AdmOk (a : Admission) : Prop := ∀ c ∈ a.contents, AdmsOk c

def admT (a : Admission) : Tlv :=
  tSeq ((match a.admissionAuthority with | some g => [g.marshal] | none => []) ++ [tSeq (a.contents.map admsT)])

theorem admissionTlv_eq (a : Admission) (h : AdmOk a) : admissionTlv a = .ok (admT a) := by
  unfold admissionTlv
  rw [List.mapM_eq_pure_map fun c hc => admissionsTlv_eq c (h c hc)]
  rfl

theorem tagsOk_admT (a : Admission) : tagsOk (admT a) = true := by
  unfold admT
  cases a.admissionAuthority <;> simp [tagsOk_marshal, tagsOk_admsT]

theorem rej_gn_seq (xs : List Tlv) : decGeneralName (Tlv.cons 0x30 xs) = none := rfl

theorem decAdmission_admT (a : Admission) (h : AdmOk a) (hl : (admT a).enc.length < 2 ^ 64) : decAdmission (admT a).enc = some a := by
  have hC : (a.contents.map admsT).mapM decAdmissions = some a.contents :=
    List.mapM_map_eq_some_self fun c hc => decAdmissions_admsT c (h c hc)
  unfold decAdmission
  rw [decodeDer_enc_of_tagsOk _ (tagsOk_admT a) hl]
  simp only [admT, tSeq]
  rw [takeIf_authority decGeneralName GeneralName.marshal decGeneralName_marshal (List.forall_mem_singleton.mpr (rej_gn_seq _))]
  simp only [hC, Option.map_some]

end AdmRound
