import Gopki.Lemmas.DerLemmas
import Gopki.Lemmas.WfLemmas
import Gopki.Spec.Shape
/-! Well-formedness from shape: a value whose tags are all valid is well formed as soon as its whole encoding
    fits one DER length (2^64 octets), because every nested content is no longer than the whole. -/
namespace Der

mutual
theorem wf_of_tagsOk : ∀ (t : Tlv), tagsOk t = true → t.enc.length < 2 ^ 64 → t.wf = true
  | .prim tg c => by
    intro h hl
    simp only [tagsOk, Bool.and_eq_true] at h
    simp only [Tlv.wf, Bool.and_eq_true, decide_eq_true_eq]
    exact ⟨⟨h.1, h.2⟩, Nat.lt_of_le_of_lt (content_length_le_enc (.prim tg c)) hl⟩
  | .cons tg cs => by
    intro h hl
    have hc : (encList cs).length < 2 ^ 64 := Nat.lt_of_le_of_lt (content_length_le_enc (.cons tg cs)) hl
    simp only [tagsOk, Bool.and_eq_true] at h
    simp only [Tlv.wf, Bool.and_eq_true, decide_eq_true_eq]
    exact ⟨⟨⟨h.1.1, h.1.2⟩, hc⟩, wfList_of_tagsOk cs h.2 hc⟩
theorem wfList_of_tagsOk : ∀ (ts : List Tlv), tagsOkList ts = true → (encList ts).length < 2 ^ 64 → wfList ts = true
  | [] => by intro _ _; rfl
  | x :: xs => by
    intro h hl
    simp only [tagsOkList, Bool.and_eq_true] at h
    simp only [encList, List.length_append] at hl
    simp only [wfList, Bool.and_eq_true]
    exact ⟨wf_of_tagsOk x h.1 (Nat.lt_of_le_of_lt (Nat.le_add_right _ _) hl),
      wfList_of_tagsOk xs h.2 (Nat.lt_of_le_of_lt (Nat.le_add_left _ _) hl)⟩
end

/-! ### `tagsOk` of values assembled from members: a `simp` set -/

@[simp] theorem tagsOkList_eq_all (ts : List Tlv) : tagsOkList ts = ts.all tagsOk := by
  induction ts with
  | nil => rfl
  | cons x xs ih => rw [tagsOkList, ih, List.all_cons]

@[simp] theorem _root_.List.all_opt {α : Type} (p : α → Bool) (c : Prop) [Decidable c] (x : α) :
    (if c then [] else [x]).all p = (decide c || p x) := by
  by_cases h : c <;> simp [h]

theorem tagsOkList_map {α : Type} {f : α → Tlv} (h : ∀ a, tagsOk (f a) = true) {l : List α} : tagsOkList (l.map f) = true := by
  rw [tagsOkList_eq_all, List.all_map]; exact List.all_eq_true.mpr fun a _ => h a

@[simp] theorem tagsOk_seq (cs : List Tlv) : tagsOk (Asn1.tSeq cs) = tagsOkList cs := by
  simp only [Asn1.tSeq]; exact Bool.true_and _

/-- the identifier octet of `[n] EXPLICIT` is valid for the tag numbers that fit it -/
theorem explicit_tag_ok : ∀ n < 31, (isCons (UInt8.ofNat (0xa0 + n)) && (UInt8.ofNat (0xa0 + n) &&& 0x1f != 0x1f)) = true := by
  decide

@[simp] theorem tagsOk_explicit {n : Nat} (h : n < 31) (t : Tlv) : tagsOk (Asn1.tExplicit n t) = tagsOk t := by
  simp only [Asn1.tExplicit, tagsOk, tagsOkList, explicit_tag_ok n h, Bool.and_true, Bool.true_and]

@[simp] theorem tagsOk_tUtf8 (s : String) : tagsOk (Asn1.tUtf8 s) = true := rfl
@[simp] theorem tagsOk_tPrintable (s : String) : tagsOk (Asn1.tPrintable s) = true := rfl
@[simp] theorem tagsOk_tOid (o : List Nat) : tagsOk (Asn1.tOid o) = true := rfl
@[simp] theorem tagsOk_tOctet (b : Bytes) : tagsOk (Asn1.tOctet b) = true := rfl
@[simp] theorem tagsOk_tInt (n : Int) : tagsOk (Asn1.tInt n) = true := rfl
@[simp] theorem tagsOk_tBool (b : Bool) : tagsOk (Asn1.tBool b) = true := rfl

end Der

namespace X509
open Der

/-- what the round trips of assembled values use: valid tags and a total size that fits one DER length -/
theorem decodeDer_enc_of_tagsOk (t : Tlv) (h : tagsOk t = true) (hl : t.enc.length < 2 ^ 64) : decodeDer t.enc = some t :=
  decodeDer_enc t (wf_of_tagsOk t h hl)

/-- the same for a SEQUENCE, from the size of its content -/
theorem decodeDer_seq_of_tagsOk (cs : List Tlv) (h : tagsOkList cs = true) (hl : (encList cs).length < 2 ^ 64) :
    decodeDer (Asn1.tSeq cs).enc = some (.cons 0x30 cs) :=
  decodeDer_enc _ (wf_cons _ _ ⟨by decide, by decide⟩ hl (wfList_of_tagsOk cs h hl))

end X509
