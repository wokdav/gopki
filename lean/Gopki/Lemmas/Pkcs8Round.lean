import Gopki.Lemmas.Pkcs8Lemmas
import Gopki.Lemmas.TagsOk
import Gopki.Lemmas.IntLemmas
/-! Round trip of the EC private key structures: what `marshalEc` writes, `parse` reads back (inner ECPrivateKey, then PKCS#8). -/
namespace Pkcs8
open Der Asn1

/-- beside the public point: 66 octets hold the scalar of the largest curve (P-521); with the version, the octet counting unused
    bits and ten octets of header for each of the five nodes that is 118.  The point is bounded because the lengths of this
    DER model stay below 2^64. -/
theorem ecPrivateKeyTlv_length (k : EcKey) (hw : scalarWidth k.curve ≤ 66) (hd : k.d < 256 ^ scalarWidth k.curve) (hpub : k.pub.length < 2 ^ 63) :
    (ecPrivateKeyTlv k).enc.length ≤ k.pub.length + 118 ∧ (ecPrivateKeyTlv k).enc.length < 2 ^ 64 := by
  have hs : sizeBound (ecPrivateKeyTlv k) ≤ k.pub.length + 118 := by
    simp [ecPrivateKeyTlv, tSeq, tInt, tOctet, tExplicit, tBits, tBitString, bitStringContent, intBytes_one, natBEFixed_length _ _ hd]
    omega
  have h64 : k.pub.length + 118 < 2 ^ 64 := Nat.lt_of_lt_of_le (Nat.add_lt_add_right hpub 118) (by decide)
  have hl := Nat.le_trans (enc_length_le_sizeBound _ (Nat.lt_of_le_of_lt hs h64)) hs
  exact ⟨hl, Nat.lt_of_le_of_lt hl h64⟩

/-- the inner ECPrivateKey structure written by `marshalECPrivateKeyWithOID` is read back as the same curve and scalar -/
theorem parseEcInner_ecPrivateKeyTlv (k : EcKey) (hc : k.curve ∈ curves) (hd : 0 < k.d ∧ k.d < k.curve.order) (hpub : k.pub.length < 2 ^ 63) :
    parseEcInner (some k.curve.oid) (ecPrivateKeyTlv k).enc = .ok (k.curve, k.d) := by
  obtain ⟨hw, _, hnc, _, _⟩ := curve_facts k.curve hc
  have hdw := lt_width hd.2
  have hlen := (ecPrivateKeyTlv_length k hw hdw hpub).2
  have hfields : ecPrivateKeyFields (ecPrivateKeyTlv k) = some (natBEFixed (scalarWidth k.curve) k.d, none) := by
    simp only [ecPrivateKeyTlv, tInt, intBytes_one]; rfl
  unfold parseEcInner
  rw [decodePrefix_enc _ (wf_of_tagsOk _ rfl hlen)]
  -- the parser's checks, in its order: the curve is found by its OID, the scalar is not 0, is below the order, and fits the width
  simp [hfields, hnc, beNat_natBEFixed, Nat.ne_of_gt hd.1, Nat.not_le.mpr hd.2, natBEFixed_length _ _ hdw]

/-- PKCS#8 written by `marshalEc` is read back by `parse` as the same curve and scalar:
    for every curve of the table, every scalar in 1 … n-1, and every public point of fewer than 2^63 octets -/
theorem parse_marshalEc (k : EcKey) (hc : k.curve ∈ curves) (hd : 0 < k.d ∧ k.d < k.curve.order) (hpub : k.pub.length < 2 ^ 63) :
    parse (marshalEc k) = .ok (.ec k.curve k.d) := by
  obtain ⟨hw, _, _, hdo, hol⟩ := curve_facts k.curve hc
  have hin := (ecPrivateKeyTlv_length k hw (lt_width hd.2) hpub).1
  have hs : sizeBound (marshalEcTlv k) < 2 ^ 64 := by
    simp [marshalEcTlv, tSeq, tInt, tOid, tOctet, intBytes_zero, show (oidContent oidEcPublicKey).length = 7 by decide]
    omega
  unfold parse marshalEc
  rw [decodePrefix_enc _ (wf_of_tagsOk _ rfl (enc_length_lt _ hs))]
  have hoid : X509.decOid (oidContent oidEcPublicKey) = some oidEcPublicKey := by decide
  have hne : ¬ (oidEcPublicKey = oidRsaEncryption) := by decide
  simp only [marshalEcTlv, tSeq, tInt, tOid, tOctet, hoid, hdo, Option.getD_some, hne, if_false, if_true,
    parseEcInner_ecPrivateKeyTlv k hc hd hpub, bind, Except.bind, pure, Except.pure]

end Pkcs8
