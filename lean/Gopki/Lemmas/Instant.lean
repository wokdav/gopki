import Gopki.Lemmas.CalInv
import Gopki.Lemmas.TimeRound
import Gopki.Model.Generator
/-! `Gen.timeTlv`: the validity fields carry exactly the instants (`timeTlv_roundtrip`), and what it returns when it
    returns (`timeTlv_ok`). -/
namespace Gen
open Asn1 Calendar

/-- the validity fields carry exactly the instants, for UTC years 0 … 9999 (in gopki's terms: `C04_instant_roundtrip`) -/
theorem timeTlv_roundtrip (t : Int) (hy : 0 ≤ (wallOf t 0).year ∧ (wallOf t 0).year ≤ 9999) :
    ∃ tag content, timeTlv t = .ok (.prim tag content) ∧ X509.decTime tag content = some t ∧
      X509.primCanonical tag content = true ∧ (tag = 0x17 ↔ (1950 ≤ (wallOf t 0).year ∧ (wallOf t 0).year < 2050)) := by
  obtain ⟨hv, hh, hm, hs, hgo⟩ := goDate_wallOf t
  unfold timeTlv
  -- from here on the wall clock is any record with these properties (`wallOf t 0` is costly to compare when it may unfold)
  generalize wallOf t 0 = w at *
  obtain ⟨tag, content, h1, h2, h3⟩ := TimeRound.tTime_roundtrip ⟨w.year, w.month, w.day, w.hour, w.minute, w.second⟩ hy hv hh hm hs
  refine ⟨tag, content, ?_, hgo ▸ h2, h3⟩
  simp only
  rw [h1]; rfl

/-- what `timeTlv` returns when it returns: a UTCTime or GeneralizedTime that reads back as the instant -/
theorem timeTlv_ok {t : Int} {v : Der.Tlv} (h : timeTlv t = .ok v) :
    ∃ tag content, v = .prim tag content ∧ (tag = 0x17 ∨ tag = 0x18) ∧ X509.decTime tag content = some t := by
  obtain ⟨hv, hh, hm, hs, hgo⟩ := goDate_wallOf t
  unfold timeTlv at h
  generalize wallOf t 0 = w at *
  simp only at h
  split at h <;> cases h
  rename_i hc
  -- `tTime` writes the years 0 … 9999 only, under one of the two tags
  obtain ⟨tag, body, rfl, htag, hy⟩ : ∃ tag body, v = .prim tag body ∧ (tag = 0x17 ∨ tag = 0x18) ∧ 0 ≤ w.year ∧ w.year ≤ 9999 := by
    rcases TimeRound.tTime_form _ _ hc with ⟨b, h, hu⟩ | ⟨b, h, _, hy⟩
    · exact ⟨_, b, h, .inl rfl, Int.le_trans (by decide) hu.1, Int.le_trans (Int.le_of_lt hu.2) (by decide)⟩
    · exact ⟨_, b, h, .inr rfl, hy⟩
  obtain ⟨_, _, h1, h2, -, -⟩ := TimeRound.tTime_roundtrip ⟨w.year, w.month, w.day, w.hour, w.minute, w.second⟩ hy hv hh hm hs
  cases h1.symm.trans hc
  exact ⟨_, _, rfl, htag, hgo ▸ h2⟩

end Gen
