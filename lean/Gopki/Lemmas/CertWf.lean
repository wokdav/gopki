import Gopki.Lemmas.TagsOk
import Gopki.Lemmas.GenShape
import Gopki.Lemmas.Instant
import Gopki.Lemmas.NegInt
import Gopki.Lemmas.OidLemmas
import Gopki.Spec.X509
/-! Shape and canonical form of the certificate the model writes, for **all** inputs: every value built by
    `Gen.tbsTlv` / `Gen.certTlv` has valid tags (`Der.tagsOk`) and every primitive inside it is in canonical DER
    form (`X509.canonical`).  With `Der.wf_of_tagsOk` this makes the model's certificate strictly decodable. -/
namespace CertWf
open Der Asn1 X509

/-- both facts the certificate theorem needs of a value -/
def Good (t : Tlv) : Prop := tagsOk t = true ∧ canonical t = true
def GoodList (ts : List Tlv) : Prop := tagsOkList ts = true ∧ canonicalList ts = true

/-- a good value whose encoding fits one DER length is well formed, so the strict decoder returns it -/
theorem good_decodable {v : Tlv} (hg : Good v) (hl : v.enc.length < 2 ^ 64) :
    v.wf = true ∧ canonical v = true ∧ decodeDer v.enc = some v :=
  ⟨wf_of_tagsOk v hg.1 hl, hg.2, decodeDer_enc_of_tagsOk v hg.1 hl⟩

theorem goodList_nil : GoodList [] := ⟨rfl, rfl⟩

theorem goodList_cons {x : Tlv} {xs : List Tlv} : GoodList (x :: xs) ↔ Good x ∧ GoodList xs := by
  simp only [GoodList, tagsOkList, canonicalList, Bool.and_eq_true]; exact and_and_and_comm

theorem goodList_iff_forall {ts : List Tlv} : GoodList ts ↔ ∀ t ∈ ts, Good t := by
  induction ts with
  | nil => simp [goodList_nil]
  | cons x xs ih => rw [goodList_cons, ih, List.forall_mem_cons]

theorem goodList_append {a b : List Tlv} : GoodList (a ++ b) ↔ GoodList a ∧ GoodList b := by
  simp only [goodList_iff_forall, List.forall_mem_append]

theorem goodList_opt {c : Prop} [Decidable c] {x : Tlv} (h : Good x) : GoodList (if c then [] else [x]) := by
  split
  exacts [goodList_nil, goodList_cons.2 ⟨h, goodList_nil⟩]

theorem goodList_of_forall : ∀ (ts : List Tlv), (∀ t ∈ ts, Good t) → GoodList ts := fun _ => goodList_iff_forall.2

theorem good_cons {tag : UInt8} {cs : List Tlv} (ht : (isCons tag && (tag &&& 0x1f != 0x1f)) = true) :
    Good (.cons tag cs) ↔ GoodList cs := by
  simp only [Good, GoodList, tagsOk, canonical, ht, Bool.true_and]

theorem good_seq {cs : List Tlv} : Good (tSeq cs) ↔ GoodList cs := good_cons rfl
theorem good_set {cs : List Tlv} : Good (tSet cs) ↔ GoodList cs := good_cons rfl
theorem good_explicit {n : Nat} {t : Tlv} (hn : n < 31) : Good (tExplicit n t) ↔ Good t := by
  rw [Good, tagsOk_explicit hn, tExplicit, canonical, canonicalList, canonicalList, Bool.and_true, Good]

/-! For a literal tag both halves of `Good` compute: `tagsOk` looks at the identifier octet only, and `primCanonical`
selects its clause by comparing the tag with literals. -/

theorem good_int (n : Int) : Good (tInt n) := ⟨rfl, intBytes_canonical n⟩
theorem good_bool (b : Bool) : Good (tBool b) := by cases b <;> exact ⟨rfl, rfl⟩
theorem good_octet (bs : Bytes) : Good (tOctet bs) := ⟨rfl, rfl⟩
theorem good_string (s : String) : Good (tString s) := by unfold tString; simp only; split <;> exact ⟨rfl, rfl⟩

theorem bitStringContent_aligned (bs : Bytes) : bitStringContent bs (8 * bs.length) = 0 :: bs := by
  rw [bitStringContent, Nat.mul_mod_right]; rfl

/-- a byte-aligned bit string (every key, signature and unique id gopki writes) -/
theorem good_bits (bs : Bytes) : Good (tBitString bs (8 * bs.length)) := by
  refine ⟨rfl, ?_⟩
  show bitStringCanonical (bitStringContent bs (8 * bs.length)) = true
  rw [bitStringContent_aligned]
  cases h : bs.getLast? <;> simp [bitStringCanonical, h, Nat.mod_one]

theorem oidContent_canonical (arcs : List Nat) (hv : oidValid arcs = true) (hb : ∀ a ∈ arcs, a < 2 ^ 63) :
    oidCanonical (oidContent arcs) = true := by
  -- `oidValid` holds of no list shorter than two
  obtain _ | ⟨a, _ | ⟨b, rest⟩⟩ := arcs
  · cases hv
  · cases hv
  · rw [OidLemmas.oidContent_cons]
    exact OidLemmas.oidCanonical_flatMap (List.cons_ne_nil _ _) (OidLemmas.subids_lt hb)

/-- the arcs only; `ExtRound.OidOk` is this and `oidValid` -/
def OidOk (o : List Nat) : Prop := ∀ a ∈ o, a < 2 ^ 63

theorem good_oid (arcs : List Nat) (hv : oidValid arcs = true) (hb : OidOk arcs) : Good (tOid arcs) :=
  ⟨rfl, oidContent_canonical arcs hv hb⟩

end CertWf

namespace CertWf
open Der Asn1 X509 Config

theorem goodList_of_mapM {α : Type} {f : α → Except String Tlv} {xs : List α} {ys : List Tlv} (h : xs.mapM f = .ok ys)
    (hg : ∀ x ∈ xs, ∀ y, f x = .ok y → Good y) : GoodList ys :=
  goodList_of_forall ys fun y hy => let ⟨x, hx, hxy⟩ := List.mem_of_mapM_ok h y hy; hg x hx y hxy

/-- AlgorithmIdentifier parameters the model ever produces: absent, or a value with valid tags and canonical
    primitives (NULL for RSA, the named-curve OID for EC keys) -/
def AlgOk (a : Gen.AlgId) : Prop := OidOk a.oid ∧ ∀ p, a.params = some p → Good p

theorem good_algId (a : Gen.AlgId) (v : Tlv) (h : Gen.algIdTlv a = .ok v) (ha : AlgOk a) : Good v := by
  obtain ⟨hv, rfl⟩ := Gen.algIdTlv_ok h
  refine good_seq.2 (goodList_cons.2 ⟨good_oid a.oid hv ha.1, ?_⟩)
  cases hp : a.params with
  | none => exact goodList_nil
  | some p => exact goodList_cons.2 ⟨ha.2 p hp, goodList_nil⟩

theorem good_atv (a : Atv) (v : Tlv) (h : Gen.atvTlv a = .ok v) (ha : OidOk a.oid) : Good v := by
  obtain ⟨hv, rfl⟩ := Gen.atvTlv_ok h
  simp only [good_set, good_seq, goodList_cons, and_iff_left goodList_nil]
  exact ⟨good_oid a.oid hv ha, by cases a.value <;> [exact good_string _; exact good_octet _]⟩

theorem good_name (n : List Atv) (v : Tlv) (h : Gen.nameTlv n = .ok v) (hn : ∀ a ∈ n, OidOk a.oid) : Good v := by
  obtain ⟨ys, hys, rfl⟩ := Gen.nameTlv_ok h
  exact good_seq.2 (goodList_of_mapM hys fun a ha y hy => good_atv a y hy (hn a ha))

theorem good_ext (e : Cert.Ext) (v : Tlv) (h : Gen.extTlv e = .ok v) (he : OidOk e.oid) : Good v := by
  obtain ⟨hv, rfl⟩ := Gen.extTlv_ok h
  simp only [good_seq, goodList_append, goodList_cons, and_iff_left goodList_nil]
  exact ⟨⟨good_oid e.oid hv he, by split <;> simp [goodList_cons, goodList_nil, good_bool]⟩, good_octet _⟩

theorem good_time (t : Int) (v : Tlv) (h : Gen.timeTlv t = .ok v) : Good v := by
  obtain ⟨tag, content, rfl, htag, hdec⟩ := Gen.timeTlv_ok h
  -- for the two time tags `primCanonical` is `(decTime …).isSome`
  rcases htag with rfl | rfl <;> exact ⟨rfl, congrArg Option.isSome hdec⟩

/-- a bit string whose `BitLength` is eight times its length: every key, unique id and signature -/
def BitsOk (b : BitString) : Prop := b.bitLength = 8 * b.bytes.length

theorem good_bitString (b : BitString) (hb : BitsOk b) : Good (tBitString b.bytes b.bitLength) := by
  rw [hb]; exact good_bits b.bytes

theorem good_spki (s : Gen.Spki) (v : Tlv) (h : Gen.spkiTlv s = .ok v) (ha : AlgOk s.alg) (hb : BitsOk s.bits) : Good v := by
  obtain ⟨av, hav, rfl⟩ := Gen.spkiTlv_ok h
  exact good_seq.2 (goodList_cons.2 ⟨good_algId s.alg av hav ha, goodList_cons.2 ⟨good_bitString s.bits hb, goodList_nil⟩⟩)

/-- a unique id under its context tag 1 or 2: the content is not constrained by `primCanonical` -/
theorem good_uid (tag : Nat) (htag : tag = 1 ∨ tag = 2) (u : Option BitString) : GoodList (Gen.uidTlv tag u) := by
  cases u with
  | none => exact goodList_nil
  | some b => rcases htag with rfl | rfl <;> exact goodList_cons.2 ⟨⟨rfl, rfl⟩, goodList_nil⟩

/-- what the theorem asks of a to-be-signed body: OID arcs below 2^63 (gopki rejects arcs above 2^31),
    AlgorithmIdentifier parameters that are themselves canonical values, a byte-aligned key bit string -/
structure TbsOk (t : Gen.Tbs) : Prop where
  sigAlg : ∀ a, t.sigAlg = some a → AlgOk a
  issuer : ∀ a ∈ t.issuer, OidOk a.oid
  subject : ∀ a ∈ t.subject, OidOk a.oid
  spkiAlg : AlgOk t.spki.alg
  spkiBits : BitsOk t.spki.bits
  exts : ∀ e ∈ t.exts, OidOk e.oid

theorem good_tbs (t : Gen.Tbs) (v : Tlv) (h : Gen.tbsTlv t = .ok v) (ht : TbsOk t) : Good v := by
  obtain ⟨a, ha, sa, hsa, exts, hexts, iss, hiss, nb, hnb, na, hna, subj, hsubj, spki, hspki, rfl⟩ := Gen.tbsTlv_ok h
  have gexts : GoodList exts := goodList_of_mapM hexts fun e he y hy => good_ext e y hy (ht.exts e he)
  simp only [good_seq, goodList_append, goodList_cons, and_iff_left goodList_nil]
  exact ⟨goodList_opt ((good_explicit (by decide)).2 (good_int _)),
    good_int _, good_algId a sa hsa (ht.sigAlg a ha), good_name _ _ hiss ht.issuer, ⟨good_time _ _ hnb, good_time _ _ hna⟩,
    good_name _ _ hsubj ht.subject, good_spki _ _ hspki ht.spkiAlg ht.spkiBits, good_uid 1 (.inl rfl) _, good_uid 2 (.inr rfl) _,
    goodList_opt ((good_explicit (by decide)).2 (good_seq.2 gexts))⟩

theorem good_cert (c : Gen.Certificate) (v : Tlv) (h : Gen.certTlv c = .ok v) (htbs : Good c.tbs) (ha : AlgOk c.outer)
    (hs : BitsOk c.signature) : Good v := by
  obtain ⟨av, hav, rfl⟩ := Gen.certTlv_ok h
  simp only [good_seq, goodList_cons, and_iff_left goodList_nil]
  exact ⟨htbs, good_algId _ av hav ha, good_bitString _ hs⟩

end CertWf

namespace CertWf
open Der Asn1 X509 Config Shape

theorem oidOk_of_oidOkB (o : List Nat) (h : oidOkB o = true) : OidOk o := by
  simpa only [OidOk, oidOkB, List.all_eq_true, decide_eq_true_eq] using h

theorem algOk_of_algOkB (a : Gen.AlgId) (h : algOkB a = true) : AlgOk a := by
  simp only [algOkB, Bool.and_eq_true] at h
  refine ⟨oidOk_of_oidOkB _ h.1, fun p hp => ?_⟩
  simpa only [Good, hp, Bool.and_eq_true] using h.2

/-- the Boolean the driver evaluates on every certificate of every run implies the theorems' hypothesis -/
theorem tbsOk_of_tbsOkB (t : Gen.Tbs) (h : tbsOkB t = true) : TbsOk t := by
  simp only [tbsOkB, Bool.and_eq_true, List.all_eq_true] at h
  obtain ⟨⟨⟨⟨⟨h1, h2⟩, h3⟩, h4⟩, h5⟩, h6⟩ := h
  exact { sigAlg := by intro a ha; rw [ha] at h1; exact algOk_of_algOkB a h1,
          issuer := fun a ha => oidOk_of_oidOkB _ (h2 a ha), subject := fun a ha => oidOk_of_oidOkB _ (h3 a ha),
          spkiAlg := algOk_of_algOkB _ h4, spkiBits := by simpa [bitsOkB, BitsOk] using h5,
          exts := fun e he => oidOk_of_oidOkB _ (h6 e he) }

end CertWf
