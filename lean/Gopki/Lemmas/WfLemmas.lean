import Gopki.Base.Asn1
/-! What discharges the well-formedness side condition of `decodeDer_enc`: size bounds for encodings (`sizeBound`, computed from
    the shape of a value) and `wf` of a single node. -/
namespace Der

theorem encLen_length_le (n : Nat) (h : n < 2 ^ 64) : (encLen n).length ≤ 9 := by
  unfold encLen
  split
  · simp
  · exact Nat.succ_le_succ (natBE_length_le 8 n h)

theorem enc_length_le (t : Tlv) (h : t.content.length < 2 ^ 64) : t.enc.length ≤ t.content.length + 10 := by
  have := encLen_length_le _ h
  rw [t.enc_eq, List.length_cons, List.length_append]
  omega

theorem content_length_le_enc (t : Tlv) : t.content.length ≤ t.enc.length := by
  rw [t.enc_eq, List.length_cons, List.length_append]; exact Nat.le_succ_of_le (Nat.le_add_left _ _)

theorem prim_enc_length_le (t : UInt8) (c : Bytes) (h : c.length < 2 ^ 64) : (Tlv.prim t c).enc.length ≤ c.length + 10 :=
  enc_length_le (.prim t c) h

/-! An upper bound for the length of an encoding that is computed from the shape of the value alone:
    ten octets (tag, and a length of at most nine) for every node on top of its content. -/
mutual
@[simp] def sizeBound : Tlv → Nat
  | .prim _ c => c.length + 10
  | .cons _ cs => sizeBoundList cs + 10
@[simp] def sizeBoundList : List Tlv → Nat
  | [] => 0
  | x :: xs => sizeBound x + sizeBoundList xs
end

mutual
theorem enc_length_le_sizeBound : ∀ t : Tlv, sizeBound t < 2 ^ 64 → t.enc.length ≤ sizeBound t
  | .prim tg c, h => prim_enc_length_le tg c (Nat.lt_of_le_of_lt (Nat.le_add_right _ 10) h)
  | .cons tg cs, h => by
    have hs := Nat.lt_of_le_of_lt (Nat.le_add_right (sizeBoundList cs) 10) h
    have hl := encList_length_le_sizeBound cs hs
    exact Nat.le_trans (enc_length_le (.cons tg cs) (Nat.lt_of_le_of_lt hl hs)) (Nat.add_le_add_right hl 10)
theorem encList_length_le_sizeBound : ∀ ts : List Tlv, sizeBoundList ts < 2 ^ 64 → (encList ts).length ≤ sizeBoundList ts
  | [], _ => Nat.le_refl 0
  | x :: xs, h => by
    rw [encList, List.length_append]
    exact Nat.add_le_add (enc_length_le_sizeBound x (Nat.lt_of_le_of_lt (Nat.le_add_right _ _) h))
      (encList_length_le_sizeBound xs (Nat.lt_of_le_of_lt (Nat.le_add_left _ _) h))
end

theorem enc_length_lt (t : Tlv) (h : sizeBound t < 2 ^ 64) : t.enc.length < 2 ^ 64 :=
  Nat.lt_of_le_of_lt (enc_length_le_sizeBound t h) h

end Der

namespace Der
open Asn1

theorem wf_prim (t : UInt8) (c : Bytes) (ht : isCons t = false ∧ t &&& 0x1f ≠ 0x1f) (hc : c.length < 2 ^ 64) : (Tlv.prim t c).wf = true := by
  simp only [Tlv.wf, ht.1, Bool.not_false, Bool.true_and, Bool.and_eq_true, bne_iff_ne, decide_eq_true_eq]
  exact ⟨ht.2, hc⟩

theorem wf_cons (t : UInt8) (cs : List Tlv) (ht : isCons t = true ∧ t &&& 0x1f ≠ 0x1f) (hl : (encList cs).length < 2 ^ 64)
    (hcs : wfList cs = true) : (Tlv.cons t cs).wf = true := by
  simp only [Tlv.wf, ht.1, Bool.true_and, Bool.and_eq_true, bne_iff_ne, decide_eq_true_eq]
  exact ⟨⟨ht.2, hl⟩, hcs⟩

theorem tExplicit_one (t : Tlv) : tExplicit 1 t = .cons 0xa1 [t] := rfl
theorem tExplicit_zero (t : Tlv) : tExplicit 0 t = .cons 0xa0 [t] := rfl

end Der
