import Gopki.Lemmas.ExceptLemmas
import Gopki.Model.Generator
/-! What the functions of `Model/Generator.lean` return when they return at all: one inversion lemma per function (the
    encoders, `signBody`, `buildCertBody`; `timeTlv` has its own in `Instant.lean`, next to the calendar facts it needs; `compile`, a four-way `match`, has none).  These
    definitions are unfolded here and nowhere else: the certificate theorems (`CertWf`, `CertRound`, `CertPipeline`,
    `Props/*`) take the shape of a value from here. -/
namespace Gen
open Der Asn1 Config

theorem algIdTlv_ok {a : AlgId} {v : Tlv} (h : algIdTlv a = .ok v) :
    oidValid a.oid = true ∧ tSeq (tOid a.oid :: a.params.toList) = v := by
  simpa only [algIdTlv, except_ok] using h

theorem atvTlv_ok {a : Atv} {v : Tlv} (h : atvTlv a = .ok v) :
    oidValid a.oid = true ∧ tSet [tSeq [tOid a.oid, match a.value with | .str s => tString s | .bytes b => tOctet b]] = v := by
  simp only [atvTlv, except_ok] at h
  exact h  -- up to the two `match`es, which are different constants with the same body

theorem extTlv_ok {e : Cert.Ext} {v : Tlv} (h : extTlv e = .ok v) :
    oidValid e.oid = true ∧ tSeq ([tOid e.oid] ++ (if e.critical then [tBool true] else []) ++ [tOctet e.value]) = v := by
  simpa only [extTlv, except_ok] using h

theorem nameTlv_ok {n : List Atv} {v : Tlv} (h : nameTlv n = .ok v) : ∃ ys, n.mapM atvTlv = .ok ys ∧ tSeq ys = v := by
  simpa only [nameTlv, except_ok] using h

theorem spkiTlv_ok {s : Spki} {v : Tlv} (h : spkiTlv s = .ok v) :
    ∃ av, algIdTlv s.alg = .ok av ∧ tSeq [av, tBitString s.bits.bytes s.bits.bitLength] = v := by
  simpa only [spkiTlv, except_ok] using h

theorem certTlv_ok {c : Certificate} {v : Tlv} (h : certTlv c = .ok v) :
    ∃ av, algIdTlv c.outer = .ok av ∧ tSeq [c.tbs, av, tBitString c.signature.bytes c.signature.bitLength] = v := by
  simpa only [certTlv, except_ok] using h

theorem tbsTlv_ok {t : Tbs} {v : Tlv} (h : tbsTlv t = .ok v) :
    ∃ a, t.sigAlg = some a ∧ ∃ sa, algIdTlv a = .ok sa ∧ ∃ exts, t.exts.mapM extTlv = .ok exts ∧
      ∃ iss, nameTlv t.issuer = .ok iss ∧ ∃ nb, timeTlv t.notBefore = .ok nb ∧ ∃ na, timeTlv t.notAfter = .ok na ∧
      ∃ subj, nameTlv t.subject = .ok subj ∧ ∃ spki, spkiTlv t.spki = .ok spki ∧
      tSeq ((if t.version = 0 then [] else [tExplicit 0 (tInt t.version)]) ++
        tInt t.serial :: sa :: iss :: tSeq [nb, na] :: subj :: spki :: (uidTlv 1 t.issuerUid ++ (uidTlv 2 t.subjectUid ++
        (if exts.isEmpty then [] else [tExplicit 3 (tSeq exts)])))) = v := by
  unfold tbsTlv at h
  cases ha : t.sigAlg with
  | none => rw [ha] at h; cases h
  | some a =>
    simp only [ha, except_ok, List.append_assoc, List.cons_append, List.nil_append] at h
    exact ⟨a, rfl, h⟩

/-- `Sign` succeeds only with the issuer's key, of the type the algorithm wants; the body it signs is the context's with
    the issuer's name, the compiled extensions and — unless one was preset — the algorithm's identifier put in -/
theorem signBody_ok {ctx : Context} {iss : IssuerContext} {alg : Nat} {tbs : Tbs} {outer : AlgId} {k : PrivKey}
    (h : signBody ctx iss alg = .ok (tbs, outer, k)) :
    ∃ exts, iss.key = some k ∧ sigAlgId alg = some outer ∧ ctx.builders.mapM (compile · ctx iss) = .ok exts ∧
      k.keyType = (sigAlgTable[alg]?.map (·.2)).getD 0 ∧
      tbs = { ctx.tbs with sigAlg := some (ctx.tbs.sigAlg.getD outer), issuer := iss.issuerDn, exts := exts } := by
  unfold signBody at h
  -- no key, unknown algorithm, a builder that fails, a key of the wrong type: each returns an error
  split at h; · cases h
  split at h; · cases h
  split at h; · cases h
  split at h <;> cases h
  exact ⟨_, ‹_›, ‹_›, ‹_›, Decidable.not_not.mp ‹_›, rfl⟩

/-- the context `buildCertBody` returns once the extension builders are known (its `.ok` branch) -/
def body (c : V1.CertificateContent) (prk : Option PrivKey) (reqSpki : Option Spki) (o : Oracle)
    (builders : List Builder) : Context :=
  let subject := if c.subject.isEmpty then defaultSubject else c.subject
  let spki : Spki := match prk, reqSpki with
    | some k, _ => k.spki
    | none, some r => r
    | none, none => o.freshKey.spki
  let m := c.manipulations
  let spki1 : Spki := match m.tbsPublicKeyAlgorithm with | some a => { spki with alg := ⟨a, none⟩ } | none => spki
  let spki2 : Spki := match m.tbsPublicKey with | some b => { spki1 with bits := ⟨b, 8 * b.length⟩ } | none => spki1
  { tbs := { version := m.version.getD 2, serial := if c.serialNumber ≠ 0 then c.serialNumber else o.serial,
             sigAlg := m.tbsSignature.map (⟨·, none⟩), issuer := subject,
             notBefore := c.validity.from_, notAfter := c.validity.until_, subject := subject, spki := spki2,
             issuerUid := c.issuerUniqueId, subjectUid := c.subjectUniqueId, exts := [] },
    key := match prk, reqSpki with
      | some k, _ => some k
      | none, some _ => none
      | none, none => some o.freshKey,
    builders := builders }

theorem buildCertBody_eq (c : V1.CertificateContent) (prk : Option PrivKey) (req : Option Spki) (o : Oracle) :
    buildCertBody c prk req o = (c.extensions.mapM V1.Ext.builder).map (body c prk req o) := by
  unfold buildCertBody
  cases c.extensions.mapM V1.Ext.builder <;> rfl

theorem buildCertBody_ok {c : V1.CertificateContent} {prk : Option PrivKey} {req : Option Spki} {o : Oracle} {ctx : Context} :
    buildCertBody c prk req o = .ok ctx ↔ ∃ bs, c.extensions.mapM V1.Ext.builder = .ok bs ∧ body c prk req o bs = ctx := by
  rw [buildCertBody_eq]
  cases c.extensions.mapM V1.Ext.builder <;> simp [Except.map]

end Gen
