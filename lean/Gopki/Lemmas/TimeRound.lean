import Gopki.Spec.X509
import Gopki.Base.Asn1
import Gopki.Base.ListAux
import Gopki.Lemmas.CalLemmas
/-! Time round trip: what `Asn1.tTime` writes (UTCTime for 1950 … 2049, GeneralizedTime otherwise), `X509.decTime` reads
    back as the instant of that wall clock.  Digits are written as `UInt8.ofNat (48 + x % 10)`; stated on that form the
    digit facts need no side condition. -/
namespace TimeRound
open Der Asn1 X509

theorem digit_toNat (x : Nat) : (UInt8.ofNat (48 + x % 10)).toNat = 48 + x % 10 := by
  exact Nat.mod_eq_of_lt (Nat.add_lt_add_left (Nat.lt_trans (Nat.mod_lt x (by decide)) (by decide : 10 < 208)) 48)

theorem digit_isDigit (x : Nat) : (48 ≤ UInt8.ofNat (48 + x % 10) && UInt8.ofNat (48 + x % 10) ≤ 57) = true := by
  simp only [Bool.and_eq_true, decide_eq_true_eq, UInt8.le_iff_toNat_le, digit_toNat]
  exact ⟨Nat.le_add_right 48 _, Nat.add_le_add_left (Nat.le_of_lt_succ (Nat.mod_lt x (by decide))) 48⟩

theorem num_digits2 (n : Nat) : num [UInt8.ofNat (48 + n / 10 % 10), UInt8.ofNat (48 + n % 10)] = n % 100 := by
  simp only [num, List.foldl, digit_toNat, Nat.add_sub_cancel_left, Nat.zero_mul, Nat.zero_add]
  rw [Nat.add_comm, Nat.mul_comm]
  exact (Nat.mod_mul (a := 10) (b := 10)).symm

theorem num_append (a b : Bytes) : num (a ++ b) = num a * 10 ^ b.length + num b := by
  unfold num
  rw [List.foldl_append, List.foldl_digits 10 (fun b => b.toNat - 48) b]

theorem num_digits4 (n : Nat) :
    num [UInt8.ofNat (48 + n / 100 / 10 % 10), UInt8.ofNat (48 + n / 100 % 10), UInt8.ofNat (48 + n % 100 / 10 % 10), UInt8.ofNat (48 + n % 100 % 10)] =
      n % 10000 :=
  (num_append [_, _] [_, _]).trans (by
    rw [num_digits2, num_digits2, Nat.mod_mod, Nat.add_comm, Nat.mul_comm]
    exact (Nat.mod_mul (a := 100) (b := 100)).symm)

/-- the tail `MMDDHHMMSSZ` that both forms share, read back for a known year -/
theorem decTimeTail_digits (y : Int) {mo d h mi s : Nat} (hv : Calendar.validDate y mo d = true)
    (hh : h < 24) (hm : mi < 60) (hs : s < 60) :
    decTimeTail y (digits2 mo ++ digits2 d ++ digits2 h ++ digits2 mi ++ digits2 s ++ [90]) =
      some (Calendar.goDate y mo d h mi s 0) := by
  have hmo : mo < 100 ∧ d < 100 := by
    have hd : Calendar.daysInMonth y mo < 100 := by
      rcases Calendar.daysInMonth_cases y mo with h | h | h | h <;> rw [h] <;> decide
    simp only [Calendar.validDate, Bool.and_eq_true, decide_eq_true_eq] at hv
    exact ⟨Nat.lt_of_le_of_lt hv.1.1.2 (by decide), Nat.lt_of_le_of_lt hv.2 hd⟩
  simp only [decTimeTail, digits2, List.cons_append, List.nil_append, isDigits, List.all_cons, List.all_nil, digit_isDigit,
    Bool.and_self, if_true, num_digits2, Nat.mod_eq_of_lt hmo.1, Nat.mod_eq_of_lt hmo.2, Nat.mod_eq_of_lt (Nat.lt_trans hh (by decide : 24 < 100)),
    Nat.mod_eq_of_lt (Nat.lt_trans hm (by decide : 60 < 100)), Nat.mod_eq_of_lt (Nat.lt_trans hs (by decide : 60 < 100)), hv, hh, hm, hs, decide_true]

/-- UTCTime: the two digits written for a year of 1950 … 2049 give that year back (RFC 5280, 4.1.2.5.1: below 50 is 20YY) -/
theorem decTime_utc (y : Int) (hu : 1950 ≤ y ∧ y < 2050) (rest : Bytes) :
    decTime 0x17 (digits2 (y.toNat % 100) ++ rest) = decTimeTail y rest := by
  unfold decTime
  simp only [if_true, digits2, List.cons_append, List.nil_append, isDigits, List.all_cons, List.all_nil, digit_isDigit,
    Bool.and_self, num_digits2, Nat.mod_mod]
  -- what is left is the century rule: `(if yy < 50 then 2000 + yy else 1900 + yy) = y` for `yy = y % 100`
  congr 1
  omega

theorem decTime_gen (y : Int) (hy : 0 ≤ y ∧ y ≤ 9999) (rest : Bytes) :
    decTime 0x18 (digits4 y.toNat ++ rest) = decTimeTail y rest := by
  unfold decTime
  simp only [show ¬ ((0x18 : UInt8) = 0x17) by decide, if_false, if_true, digits4, digits2, List.cons_append, List.nil_append,
    isDigits, List.all_cons, List.all_nil, digit_isDigit, Bool.and_self, num_digits4]
  rw [Nat.mod_eq_of_lt (by omega), Int.toNat_of_nonneg hy.1]

theorem tTime_form (c : Civil) (t : Tlv) (h : tTime c = some t) :
    (∃ body, t = .prim 0x17 body ∧ 1950 ≤ c.year ∧ c.year < 2050) ∨
    (∃ body, t = .prim 0x18 body ∧ ¬ (1950 ≤ c.year ∧ c.year < 2050) ∧ 0 ≤ c.year ∧ c.year ≤ 9999) := by
  unfold tTime at h
  by_cases hu : 1950 ≤ c.year ∧ c.year < 2050
  · rw [if_pos hu] at h; exact .inl ⟨_, (Option.some.inj h).symm, hu⟩
  · rw [if_neg hu] at h
    by_cases hy : 0 ≤ c.year ∧ c.year ≤ 9999
    · rw [if_pos hy] at h; exact .inr ⟨_, (Option.some.inj h).symm, hu, hy⟩
    · rw [if_neg hy] at h; cases h

/-- **time round trip**: a valid civil time of the years 0 … 9999 is written in the form its year demands (UTCTime exactly for
    1950 … 2049) and read back as exactly that instant; that it can be read is all `primCanonical` asks of a time -/
theorem tTime_roundtrip (c : Civil) (hy : 0 ≤ c.year ∧ c.year ≤ 9999) (hv : Calendar.validDate c.year c.month c.day = true)
    (hh : c.hour < 24) (hm : c.minute < 60) (hs : c.second < 60) :
    ∃ tag content, tTime c = some (.prim tag content) ∧
      decTime tag content = some (Calendar.goDate c.year c.month c.day c.hour c.minute c.second 0) ∧
      primCanonical tag content = true ∧ (tag = 0x17 ↔ (1950 ≤ c.year ∧ c.year < 2050)) := by
  have htail := decTimeTail_digits c.year hv hh hm hs
  by_cases hu : 1950 ≤ c.year ∧ c.year < 2050
  · have hd := (decTime_utc _ hu _).trans htail
    exact ⟨0x17, _, by rw [tTime, if_pos hu], hd, congrArg Option.isSome hd, iff_of_true rfl hu⟩
  · have hd := (decTime_gen _ hy _).trans htail
    exact ⟨0x18, _, by rw [tTime, if_neg hu, if_pos hy], hd, congrArg Option.isSome hd, iff_of_false (by decide) hu⟩

end TimeRound
