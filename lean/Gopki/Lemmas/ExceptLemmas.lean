import Gopki.Lemmas.ExceptAttr
/-! `Except` as the model uses it (`Config.R`): when does a `do` block return `.ok v`?  `simp only [f, except_ok] at h`
    turns `h : f x = .ok v` into the chain of successful steps; the functions of `Model/Generator.lean` get their inversion
    lemmas this way (`Gen.tbsTlv_ok`, `Gen.signBody_ok`, … in `GenShape.lean`), once, and the proofs use those. -/
namespace Except
variable {ε α β : Type}

@[except_ok] theorem bind_eq_ok {x : Except ε α} {f : α → Except ε β} {b : β} :
    (x >>= f) = .ok b ↔ ∃ a, x = .ok a ∧ f a = .ok b := by
  cases x <;> simp [bind, Except.bind]

@[except_ok] theorem pure_eq_ok {a b : α} : (pure a : Except ε α) = .ok b ↔ a = b := by
  simp [pure, Except.pure]

@[except_ok] theorem throw_eq_ok {e : ε} {b : α} : (throw e : Except ε α) = .ok b ↔ False := by
  simp [throw, throwThe, MonadExceptOf.throw]

attribute [except_ok] false_and and_false exists_false Except.ok.injEq

/-- what `if !c then throw e` in front of the rest `y` of a `do` block elaborates to -/
@[except_ok] theorem guard_eq_ok {c : Bool} {e : ε} {k : α → Except ε β} {y : Except ε β} {b : β} :
    (if (!c) = true then throw e >>= k else y) = .ok b ↔ c = true ∧ y = .ok b := by
  cases c <;> simp [except_ok]

theorem exists_error {x : Except ε α} (h : ∀ a, x ≠ .ok a) : ∃ e, x = .error e := by
  cases x with
  | error e => exact ⟨e, rfl⟩
  | ok a => exact absurd rfl (h a)

end Except

namespace List
variable {ε α β γ : Type} {f : α → Except ε β}

@[except_ok] theorem mapM_nil_eq_ok {ys : List β} : ([] : List α).mapM f = .ok ys ↔ ys = [] := by
  rw [mapM_nil, Except.pure_eq_ok, eq_comm]

@[except_ok] theorem mapM_cons_eq_ok {x : α} {xs : List α} {ys : List β} :
    (x :: xs).mapM f = .ok ys ↔ ∃ y, f x = .ok y ∧ ∃ ys', xs.mapM f = .ok ys' ∧ ys = y :: ys' := by
  simp only [mapM_cons, Except.bind_eq_ok, Except.pure_eq_ok, eq_comm (a := ys)]

theorem mapM_eq_pure_map {m : Type → Type} [Monad m] [LawfulMonad m] {α β : Type} {f : α → m β} {g : α → β} {l : List α}
    (h : ∀ x ∈ l, f x = pure (g x)) : l.mapM f = pure (l.map g) := by
  induction l with
  | nil => simp
  | cons x l ih => simp [h x mem_cons_self, ih fun y hy => h y (mem_cons_of_mem _ hy)]

/-- reading, element by element, a list that was written element by element -/
theorem mapM_map_eq_some {α β γ : Type} {f : α → β} {d : β → Option γ} {g : α → γ} {l : List α}
    (h : ∀ a ∈ l, d (f a) = some (g a)) : (l.map f).mapM d = some (l.map g) := by
  rw [mapM_map]; exact mapM_eq_pure_map h

theorem mapM_map_eq_some_self {α β : Type} {f : α → β} {d : β → Option α} {l : List α}
    (h : ∀ a ∈ l, d (f a) = some a) : (l.map f).mapM d = some l := by
  simpa using mapM_map_eq_some (g := id) h

theorem map_of_mapM_ok {xs : List α} {ys : List β} (h : xs.mapM f = .ok ys) : xs.map f = ys.map .ok := by
  induction xs generalizing ys with
  | nil => simp only [except_ok] at h; simp [h]
  | cons x xs ih =>
    simp only [except_ok] at h
    obtain ⟨y, hy, ys', hys', rfl⟩ := h
    simp [hy, ih hys']

variable {xs : List α} {ys : List β}

theorem mem_of_mapM_ok (h : xs.mapM f = .ok ys) (y : β) (hy : y ∈ ys) : ∃ x ∈ xs, f x = .ok y :=
  mem_map.mp (map_of_mapM_ok h ▸ mem_map_of_mem hy)

theorem ok_of_mapM_ok (h : xs.mapM f = .ok ys) (x : α) (hx : x ∈ xs) : ∃ y, f x = .ok y := by
  obtain ⟨y, _, hy⟩ := mem_map.mp (map_of_mapM_ok h ▸ mem_map_of_mem (f := f) hx)
  exact ⟨y, hy.symm⟩

theorem length_of_mapM_ok (h : xs.mapM f = .ok ys) : ys.length = xs.length := by
  simpa using (congrArg length (map_of_mapM_ok h)).symm

/-- a reader `g` that inverts each successful `f x` inverts the list `mapM f` wrote.  The proof reads `xs.map f`, which is
    `ys.map .ok`, with `fun r => r.toOption.bind g`, so that `mapM_map_eq_some` applies to the writer's list itself. -/
theorem mapM_option_of_mapM_ok (g : β → Option γ) (k : α → γ) (h : xs.mapM f = .ok ys)
    (hg : ∀ x ∈ xs, ∀ y, f x = .ok y → g y = some (k x)) : ys.mapM g = some (xs.map k) := by
  have := mapM_map_eq_some (f := f) (d := fun r => r.toOption.bind g) (g := k) (l := xs) fun x hx => by
    obtain ⟨y, hy⟩ := ok_of_mapM_ok h x hx
    simp [hy, hg x hx y hy, Except.toOption]
  rwa [map_of_mapM_ok h, mapM_map] at this

end List
