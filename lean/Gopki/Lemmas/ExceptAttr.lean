import Lean.Meta.Tactic.Simp.RegisterCommand
/-- inversion of `Except`-valued `do` blocks: rewrites `… = .ok v` into what the steps of the block returned -/
register_simp_attr except_ok
