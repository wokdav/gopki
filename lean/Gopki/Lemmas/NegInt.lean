import Gopki.Lemmas.IntLemmas
import Gopki.Spec.X509
/-! INTEGER round trip (`decInt_intBytes`) and canonical form (`CertWf.intBytes_canonical`), for every integer.  Following `makeBigInt`, `-(m+1)` is written as the octet-wise complement of what is written for
    `m` (`negIntBytes_eq`), so nothing about negative numbers is shown from the encoder: complementing turns the value `v`
    into `-(v+1)` (`decInt_compl`) and keeps `intCanonical` (`intCanonical_compl`). -/
namespace NegInt
open Der Asn1 X509

/-- complementing an octet: the library's `a ^^^ -1 = ~~~a`, with `0xff = -1` -/
theorem xor_ff (b : UInt8) : (b ^^^ 0xff).toNat = 255 - b.toNat := by
  rw [show (0xff : UInt8) = -1 from rfl, UInt8.xor_neg_one, UInt8.toNat_not]; rfl

/-- the complemented octets, read as a two's-complement number of that many octets, are `-(value + 1)` -/
theorem beNat_compl (bs : List UInt8) : (beNat (bs.map (· ^^^ 0xff)) : Int) - 256 ^ bs.length = Int.negSucc (beNat bs) := by
  have h : beNat (bs.map (· ^^^ 0xff)) + beNat bs + 1 = 256 ^ bs.length := by
    induction bs with
    | nil => rfl
    | cons b bs ih =>
      simp only [List.map_cons, beNat_cons, List.length_map, List.length_cons, xor_ff]
      have : (255 - b.toNat) * 256 ^ bs.length + b.toNat * 256 ^ bs.length = 255 * 256 ^ bs.length := by
        rw [← Nat.add_mul, Nat.sub_add_cancel (Nat.le_of_lt_succ b.toNat_lt)]
      omega
  rw [show (256 : Int) ^ bs.length = ((256 ^ bs.length : Nat) : Int) by rw [Int.natCast_pow]; rfl, ← h]
  omega

theorem compl_lt {b : UInt8} : b ^^^ 0xff < 128 ↔ 128 ≤ b := by
  rw [UInt8.lt_iff_toNat_lt, UInt8.le_iff_toNat_le, xor_ff, show (128 : UInt8).toNat = 128 from rfl]; omega

theorem compl_ge {b : UInt8} : 128 ≤ b ^^^ 0xff ↔ b < 128 := by
  rw [← UInt8.not_lt, compl_lt, UInt8.not_le]

theorem compl_eq_zero {a : UInt8} : a ^^^ 0xff = 0 ↔ a = 0xff := UInt8.xor_left_inj (b := 0xff) 0xff
theorem compl_eq_ff {a : UInt8} : a ^^^ 0xff = 0xff ↔ a = 0 := UInt8.xor_left_inj (b := 0) 0xff

theorem negIntBytes_eq (m : Nat) : negIntBytes m = (natIntBytes m).map (· ^^^ 0xff) := by
  unfold negIntBytes natIntBytes
  cases natBE m with
  | nil => rfl
  | cons b bs => by_cases h : b ≥ 128 <;> simp [h, compl_lt]

/-- the two redundant beginnings, `00` before a clear top bit and `ff` before a set one, are each other's complement -/
theorem intCanonical_compl : ∀ c : Bytes, intCanonical (c.map (· ^^^ 0xff)) = intCanonical c
  | [] | [_] => rfl
  | a :: b :: _ => by
    simp only [List.map_cons, intCanonical, compl_eq_zero, compl_eq_ff, compl_lt, compl_ge]
    rw [Bool.or_comm]

theorem decInt_compl {b : UInt8} (bs : Bytes) (h : b < 128) :
    decInt ((b :: bs).map (· ^^^ 0xff)) = some (Int.negSucc (beNat (b :: bs))) := by
  rw [List.map_cons, decInt_of_ge _ (compl_ge.mpr h), List.length_map]
  exact congrArg some (beNat_compl (b :: bs))

theorem decInt_negIntBytes (m : Nat) : decInt (negIntBytes m) = some (Int.negSucc m) := by
  obtain ⟨b, bs, h, hlt, hv⟩ := natIntBytes_value m
  rw [negIntBytes_eq, h, decInt_compl bs hlt, hv]

theorem decInt_natIntBytes (n : Nat) : decInt (natIntBytes n) = some (n : Int) := by
  obtain ⟨b, bs, h, hlt, hv⟩ := natIntBytes_value n
  rw [h, decInt_of_lt bs hlt, hv]; rfl

theorem negIntBytes_canonical (m : Nat) : intCanonical (negIntBytes m) = true := by
  rw [negIntBytes_eq, intCanonical_compl]; exact natIntBytes_canonical m

/-- **INTEGER round trip**: for every integer, positive or negative, of any size -/
theorem decInt_intBytes (n : Int) : decInt (intBytes n) = some n := by
  cases n with
  | ofNat k => exact decInt_natIntBytes k
  | negSucc m => exact decInt_negIntBytes m

end NegInt

namespace CertWf
open Der Asn1 X509

theorem intBytes_canonical (n : Int) : intCanonical (intBytes n) = true := by
  cases n with
  | ofNat k => exact natIntBytes_canonical k
  | negSucc m => exact NegInt.negIntBytes_canonical m

end CertWf
