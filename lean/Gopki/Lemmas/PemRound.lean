import Gopki.Base.Pem
import Gopki.Lemmas.B64Round
/-! Round trip of the PEM layer: what `Pem.encode` (the model of `pem.Encode`) writes for a block of one of the three
    types gopki uses is read back by `Pem.decode` (the model of `pem.Decode`) as exactly that block, followed by
    exactly the rest of the input — for contents of any length, and whatever line end follows the END line.  The reader's
    side (`decode_lines`) holds for base64 text in lines of any widths; the writer's 64 columns enter in `lines_eq_flatMap` only.
    Then the file gopki writes: hash line and up to three blocks. -/
namespace Pem
open Der B64

/-- a byte that is none of: LF, CR, `-`, `:`, space, tab -/
def plain (c : UInt8) : Bool := c != 10 && c != 13 && c != 45 && c != 58 && c != 32 && c != 9

theorem plain_iff {c : UInt8} : plain c = true ↔ c ≠ 10 ∧ c ≠ 13 ∧ c ≠ 45 ∧ c ≠ 58 ∧ c ≠ 32 ∧ c ≠ 9 := by
  simp only [plain, Bool.and_eq_true, bne_iff_ne, and_assoc]

theorem plain_ne {c x : UInt8} (h : plain c = true) (hx : plain x = false) : c ≠ x := fun e => by
  rw [e, hx] at h; cases h

theorem alpha_plain (i : Nat) : plain (alpha i) = true :=
  plain_iff.mpr ⟨alpha_ne rfl i, alpha_ne rfl i, alpha_ne rfl i, alpha_ne rfl i, alpha_ne rfl i, alpha_ne rfl i⟩

theorem pad_plain : plain pad = true := by decide

theorem enc_plain : ∀ (bs : Bytes), (enc bs).all plain = true := enc_all alpha_plain pad_plain

/-- a line, or part of one, without line feed and colon: the block types (the three gopki writes qualify, see `ty_ok`), the
    markers, a base64 line -/
def TyOk (ty : Bytes) : Prop := ∀ c ∈ ty, c ≠ 10 ∧ c ≠ 58

theorem TyOk.noNl {a : Bytes} (h : TyOk a) : ∀ c ∈ a, c ≠ nl := fun c hc => (h c hc).1

theorem TyOk.append {a b : Bytes} (ha : TyOk a) (hb : TyOk b) : TyOk (a ++ b) := fun c hc =>
  (List.mem_append.mp hc).elim (ha c) (hb c)

theorem ty_ok : TyOk tCertificate ∧ TyOk tPrivateKey ∧ TyOk tRequest := by unfold TyOk; decide

theorem tyOk_nil : TyOk [] := nofun
theorem tyOk_space : TyOk [32] := by unfold TyOk; decide
theorem tyOk_dash5 : TyOk dash5 := by unfold TyOk; decide
theorem tyOk_endMark : TyOk endMark := by unfold TyOk; decide

theorem tyOk_of_plain {a : Bytes} (h : a.all plain = true) : TyOk a := fun c hc =>
  have h := List.all_eq_true.mp h c hc; ⟨plain_ne h rfl, plain_ne h rfl⟩

theorem splitNl_append (a X : Bytes) (h : ∀ c ∈ a, c ≠ nl) : splitNl (a ++ X) = (a ++ (splitNl X).1, (splitNl X).2) := by
  induction a with
  | nil => rfl
  | cons c a ih =>
    rw [List.forall_mem_cons] at h
    simp only [List.cons_append, splitNl, h.1, if_false, ih h.2]

theorem splitNl_line (a r : Bytes) (h : ∀ c ∈ a, c ≠ nl) : splitNl (a ++ nl :: r) = (a, some r) := by
  simp [splitNl_append a _ h, splitNl]

theorem trim_id (a : Bytes) (h : ∀ c, a.getLast? = some c → c ≠ 32 ∧ c ≠ 9) : trimRightSpTab a = a := by
  obtain ⟨r, rfl⟩ : ∃ r, a = r.reverse := ⟨a.reverse, by simp⟩
  cases r with
  | nil => rfl
  | cons c cs => simp [trimRightSpTab, h c (by simp)]

theorem dropCR_id (a : Bytes) (h : a.getLast? ≠ some 13) : dropCR a = a := by simp [dropCR, h]

/-- what may follow the END line: `getLine` returns the line standing before it unchanged and `R` as the rest -/
def LineEnd (X R : Bytes) : Prop :=
  ∀ a : Bytes, (∀ c ∈ a, c ≠ nl) → (∀ c, a.getLast? = some c → c ≠ 13 ∧ c ≠ 32 ∧ c ≠ 9) → getLine (a ++ X) = (a, R)

theorem lineEnd_nl (tail : Bytes) : LineEnd (nl :: tail) tail := fun a h1 h2 => by
  simp only [getLine, splitNl_line a tail h1, dropCR_id a (fun h => (h2 13 h).1 rfl), trim_id a (fun c hc => (h2 c hc).2)]

theorem lineEnd_eof : LineEnd [] [] := fun a h1 h2 => by
  rw [getLine, splitNl_append a [] h1]
  simp [splitNl, trim_id a (fun c hc => (h2 c hc).2)]

theorem LineEnd.plain {X R a : Bytes} (hX : LineEnd X R) (ha : a.all plain = true) : getLine (a ++ X) = (a, R) :=
  hX a (tyOk_of_plain ha).noNl fun c hc =>
    have h := List.all_eq_true.mp ha c (List.mem_of_getLast? hc); ⟨plain_ne h rfl, plain_ne h rfl, plain_ne h rfl⟩

/-- a line `p ++ TYPE-----` is returned as it is: its last byte is `-` -/
theorem LineEnd.marker {X R p ty : Bytes} (hX : LineEnd X R) (hp : TyOk p) (hty : TyOk ty) :
    getLine (p ++ ((ty ++ dash5) ++ X)) = (p ++ (ty ++ dash5), R) := by
  rw [← List.append_assoc]
  refine hX _ (hp.append (hty.append tyOk_dash5)).noNl fun c hc => ?_
  obtain rfl : 45 = c := by simpa [dash5] using hc
  decide

theorem pemEnd_eq : pemEnd = [10, 45, 45, 45, 45, 45, 69, 78, 68, 32] := rfl
theorem endMark_eq : endMark = [45, 45, 45, 45, 45, 69, 78, 68, 32] := rfl
theorem pemStart_eq : pemStart = [10, 45, 45, 45, 45, 45, 66, 69, 71, 73, 78, 32] := rfl

theorem isPrefix_append (a b : Bytes) : a.isPrefixOf (a ++ b) = true := by simp
theorem isSuffix_append (a b : Bytes) : b.isSuffixOf (a ++ b) = true := by simp

theorem isPrefixOf_cons_ne {p c : UInt8} (h : c ≠ p) (pat s : Bytes) : (p :: pat).isPrefixOf (c :: s) = false := by
  simp [List.isPrefixOf, Ne.symm h]

theorem indexOf_prefix (pat x : Bytes) : indexOf pat (pat ++ x) = some 0 := by
  cases h : pat ++ x with
  | nil => simp_all [indexOf]
  | cons c s => rw [indexOf, ← h, isPrefix_append]; rfl

theorem indexOf_skip (p : UInt8) (pat a y : Bytes) (h : ∀ c ∈ a, c ≠ p) :
    indexOf (p :: pat) (a ++ y) = (indexOf (p :: pat) y).map (· + a.length) := by
  induction a with
  | nil => simp
  | cons c a ih =>
    rw [List.forall_mem_cons] at h
    simp only [List.cons_append, indexOf, isPrefixOf_cons_ne h.1, ih h.2, Option.map_map]
    rfl

theorem indexOf_skip_plain {a : Bytes} (ha : a.all plain = true) (y : Bytes) :
    indexOf pemEnd (a ++ y) = (indexOf pemEnd y).map (· + a.length) :=
  indexOf_skip nl endMark a y (tyOk_of_plain ha).noNl

theorem endMark_not_prefix {a : Bytes} (ha : a.all plain = true) (hne : a ≠ []) (s : Bytes) :
    endMark.isPrefixOf (a ++ s) = false := by
  obtain ⟨c, a, rfl⟩ := List.exists_cons_of_ne_nil hne
  exact isPrefixOf_cons_ne (plain_ne (List.all_eq_true.mp ha c (by simp)) rfl) _ _

/-- what `lines` does: it cuts the text into non-empty lines `ls` and closes each with a line feed.  The lemmas after this one
    are about any such `ls`: the width 64 plays no part in reading. -/
theorem lines_eq_flatMap (fuel : Nat) (e : Bytes) (hp : e.all plain = true) (hl : e.length < fuel) :
    ∃ ls : List Bytes, (∀ a ∈ ls, a ≠ [] ∧ a.all plain = true) ∧ ls.flatten = e ∧ lines fuel e = ls.flatMap (· ++ [nl]) := by
  induction fuel generalizing e with
  | zero => cases hl
  | succ fuel ih =>
    by_cases hne : e = []
    · subst hne; exact ⟨[], nofun, rfl, rfl⟩
    · rw [← List.take_append_drop 64 e, List.all_append, Bool.and_eq_true] at hp
      have := List.length_pos_iff.mpr hne
      obtain ⟨ls, hls, hfl, hL⟩ := ih (e.drop 64) hp.2 (by simp only [List.length_drop]; omega)
      exact ⟨e.take 64 :: ls, List.forall_mem_cons.mpr ⟨⟨by simp [hne], hp.1⟩, hls⟩,
        by rw [List.flatten_cons, hfl, List.take_append_drop], by simp [lines, hne, hL]⟩

theorem flatMap_nl_cons (a : Bytes) (ls : List Bytes) : (a :: ls).flatMap (· ++ [nl]) = a ++ nl :: ls.flatMap (· ++ [nl]) := by
  simp

/-- the same lines seen from their end: one closing line feed, every line but the first preceded by one -/
theorem flatMap_nl_snoc (a : Bytes) (ls : List Bytes) :
    (a :: ls).flatMap (· ++ [nl]) = (a ++ ls.flatMap (nl :: ·)) ++ [nl] := by
  induction ls generalizing a with
  | nil => simp
  | cons b ls ih => rw [List.flatMap_cons, ih b]; simp

/-- the first `\n-----END ` after the lines is the line feed that closes the last line: every earlier line feed is followed by a
    base64 character -/
theorem indexOf_pemEnd_lines (x : Bytes) (ls : List Bytes) (hls : ∀ a ∈ ls, a ≠ [] ∧ a.all plain = true) (b : Bytes)
    (hb : b.all plain = true) :
    indexOf pemEnd ((b ++ ls.flatMap (nl :: ·)) ++ [nl] ++ endMark ++ x) = some (b ++ ls.flatMap (nl :: ·)).length := by
  rw [List.append_assoc, List.append_assoc, List.append_assoc]
  induction ls generalizing b with
  | nil =>
    rw [List.flatMap_nil, List.append_nil, indexOf_skip_plain hb]
    exact (congrArg _ (indexOf_prefix pemEnd x)).trans (congrArg some (Nat.zero_add _))
  | cons a ls ih =>
    obtain ⟨⟨hane, ha⟩, hls⟩ := List.forall_mem_cons.mp hls
    have hc : pemEnd.isPrefixOf (nl :: (a ++ (ls.flatMap (nl :: ·) ++ ([nl] ++ (endMark ++ x))))) = false := by
      rw [pemEnd, List.isPrefixOf, endMark_not_prefix ha hane]; rfl
    rw [List.flatMap_cons, List.append_assoc, List.cons_append, indexOf_skip_plain hb, indexOf, hc, ih hls a ha,
      List.length_append (as := b)]
    exact congrArg some (Nat.add_comm (_ + 1) _)

theorem filter_plain {a : Bytes} (h : a.all plain = true) :
    a.filter (fun b => b ≠ 13 ∧ b ≠ 10) = a ∧ a.filter (fun b => b ≠ 32 ∧ b ≠ 9) = a := by
  simp only [List.filter_eq_self, List.all_eq_true, plain_iff] at *
  exact ⟨fun c hc => by simp [h c hc], fun c hc => by simp [h c hc]⟩

theorem filter_flatMap_nl (ls : List Bytes) (hls : ∀ a ∈ ls, a ≠ [] ∧ a.all plain = true) :
    (ls.flatMap (· ++ [nl])).filter (fun b => b ≠ 13 ∧ b ≠ 10) = ls.flatten ∧
      (ls.flatMap (· ++ [nl])).filter (fun b => b ≠ 32 ∧ b ≠ 9) = ls.flatMap (· ++ [nl]) := by
  induction ls with
  | nil => exact ⟨rfl, rfl⟩
  | cons a ls ih =>
    obtain ⟨⟨-, ha⟩, hls⟩ := List.forall_mem_cons.mp hls
    simp only [flatMap_nl_cons, List.filter_append, List.filter_cons, filter_plain ha, ih hls]
    exact ⟨rfl, rfl⟩

theorem indexOf_lines : ∀ (fuel : Nat) (e x : Bytes), e.all plain = true → e.length < fuel → e ≠ [] →
    (lines fuel e).length ≥ 1 ∧ indexOf pemEnd (lines fuel e ++ endMark ++ x) = some ((lines fuel e).length - 1) := by
  intro fuel e x hp hl hne
  obtain ⟨ls, hls, rfl, hL⟩ := lines_eq_flatMap fuel e hp hl
  cases ls with
  | nil => exact absurd rfl hne
  | cons a ls =>
    obtain ⟨⟨-, ha⟩, hls⟩ := List.forall_mem_cons.mp hls
    rw [hL, flatMap_nl_snoc, indexOf_pemEnd_lines x ls hls a ha, List.length_append]
    exact ⟨Nat.le_add_left 1 _, rfl⟩

theorem lines_filter : ∀ (fuel : Nat) (e : Bytes), e.all plain = true → e.length < fuel →
    (lines fuel e).filter (fun b => b ≠ 13 ∧ b ≠ 10) = e ∧ (lines fuel e).filter (fun b => b ≠ 32 ∧ b ≠ 9) = lines fuel e := by
  intro fuel e hp hl
  obtain ⟨ls, hls, rfl, hL⟩ := lines_eq_flatMap fuel e hp hl
  exact hL ▸ filter_flatMap_nl ls hls

theorem headers_zero (r a t : Bytes) (hne : r ≠ []) (hg : getLine r = (a, t)) (ha : TyOk a) :
    headers (r.length + 1) 0 r = some (0, r) := by
  have hc : a.contains 58 = false := by simpa using fun h => (ha 58 h).2 rfl
  simp only [headers, List.isEmpty_iff, hne, if_false, hg, hc, Bool.false_eq_true]

theorem findStart_begin (x : Bytes) : findStart (beginMark ++ x) = some x := by simp [findStart]

/-- `decode` on an input in which a block `ty`, `bs` has been located: after `-----BEGIN ty-----` comes `r3`, whose first
    line `a` is no header; the END marker is found at `i` and ends at `j` (`hends` is `decode`'s search for it), the base64
    text before it decodes to `bs`, and `ty-----` and a line end `X` follow it.  `pre` is what Go's
    `rest[endIndex+len(pemEnd)-1:]` keeps of the marker: nothing if the marker was matched without its line feed, else
    its last byte. -/
theorem decode_block {rest r3 a t ty bs X R pre : Bytes} {i j : Nat} (fuel : Nat) (hty : TyOk ty) (hX : LineEnd X R)
    (hstart : findStart rest = some ((ty ++ dash5) ++ nl :: r3))
    (hg : getLine r3 = (a, t)) (ha : TyOk a)
    (hends : (if endMark.isPrefixOf r3 then some (0, endMark.length)
      else (indexOf pemEnd r3).map fun i => (i, i + pemEnd.length)) = some (i, j))
    (hb : V1.goB64Decode ((r3.take i).filter (fun b => b ≠ 32 ∧ b ≠ 9)) = some bs)
    (hd : r3.drop j = (ty ++ dash5) ++ X)
    (hpre : TyOk pre) (hd' : r3.drop (i + pemEnd.length - 1) = pre ++ ((ty ++ dash5) ++ X)) :
    decode (fuel + 1) rest = some (⟨ty, bs⟩, R) := by
  have hlen : (ty ++ dash5).length = ty.length + 5 := List.length_append
  have hl1 : getLine ((ty ++ dash5) ++ nl :: r3) = (ty ++ dash5, r3) := (lineEnd_nl r3).marker tyOk_nil hty
  have htake : (ty ++ dash5).take ((ty ++ dash5).length - 5) = ty := by rw [hlen, Nat.add_sub_cancel, List.take_left]
  have hlt : ¬ ((ty ++ dash5) ++ X).length < ty.length + 5 := by
    rw [List.length_append, hlen]; exact Nat.not_lt.mpr (Nat.le_add_right ..)
  have hl2 : getLine X = ([], R) := hX [] (fun _ h => by cases h) (fun _ h => by cases h)
  have hne : r3 ≠ [] := by rintro rfl; simp [dash5] at hd
  unfold decode
  simp only [hstart, hl1, isSuffix_append, htake, headers_zero r3 a t hne hg ha, decide_true, Bool.true_and, hends, hd,
    hlt, List.take_left' hlen, List.drop_left' hlen, isPrefix_append, hl2, List.isEmpty_nil, hb, hd', hX.marker hpre hty,
    Bool.not_true, Bool.or_false, Bool.false_eq_true, if_false]

/-- `pem.Encode` without the final line feed -/
def encodeNoNl (type : Bytes) (bytes : Bytes) : Bytes :=
  let e := B64.enc bytes
  beginMark ++ type ++ dash5 ++ [nl] ++ lines (e.length + 1) e ++ endMark ++ type ++ dash5

theorem encode_eq (ty bs : Bytes) : encode ty bs = encodeNoNl ty bs ++ [nl] := rfl

/-- the written block followed by `X`, bracketed as `decode` walks through it -/
theorem encodeNoNl_append (ty bs X : Bytes) : encodeNoNl ty bs ++ X =
    beginMark ++ ((ty ++ dash5) ++ nl :: (lines ((enc bs).length + 1) (enc bs) ++ endMark ++ ((ty ++ dash5) ++ X))) := by
  simp only [encodeNoNl, List.append_assoc, List.cons_append, List.nil_append]

/-- **any line width**: a block whose base64 text stands in non-empty lines `ls`, of whatever widths, and decodes to `bs` (as Go
    decodes, leniently) is read back, whatever line end `X` follows the END line.  `pem.Encode` writes 64 columns
    (`lines_eq_flatMap`); the reader does not care. -/
theorem decode_lines (ty bs X R : Bytes) (hty : TyOk ty) (hX : LineEnd X R) (ls : List Bytes)
    (hls : ∀ a ∈ ls, a ≠ [] ∧ a.all plain = true) (hbs : decLenient ls.flatten = some bs) (fuel : Nat) :
    decode (fuel + 1) (beginMark ++ ((ty ++ dash5) ++ nl :: (ls.flatMap (· ++ [nl]) ++ endMark ++ ((ty ++ dash5) ++ X)))) =
      some (⟨ty, bs⟩, R) := by
  cases ls with
  | nil =>
    -- no contents: the END line follows the BEGIN line immediately
    exact decode_block (i := 0) (pre := []) fuel hty hX (findStart_begin _) (hX.marker tyOk_endMark hty)
      (tyOk_endMark.append (hty.append tyOk_dash5)) (if_pos (isPrefix_append ..)) hbs (hd := rfl) tyOk_nil (hd' := rfl)
  | cons a ls =>
    obtain ⟨hf1, hf2⟩ := filter_flatMap_nl _ hls
    obtain ⟨⟨hane, ha⟩, hls⟩ := List.forall_mem_cons.mp hls
    -- the header check sees the first line `a`
    obtain ⟨t, hg⟩ : ∃ t, getLine ((a :: ls).flatMap (· ++ [nl]) ++ endMark ++ ((ty ++ dash5) ++ X)) = (a, t) :=
      ⟨_, by rw [flatMap_nl_cons, List.append_assoc, List.append_assoc]; exact (lineEnd_nl _).plain ha⟩
    have hnot : endMark.isPrefixOf ((a :: ls).flatMap (· ++ [nl]) ++ endMark ++ ((ty ++ dash5) ++ X)) = false := by
      rw [flatMap_nl_cons, List.append_assoc, List.append_assoc]; exact endMark_not_prefix ha hane _
    -- the search for the END marker sees the lines as `l' ++ [nl]`
    have hidx := indexOf_pemEnd_lines ((ty ++ dash5) ++ X) ls hls a ha
    rw [flatMap_nl_snoc] at hg hnot hf1 hf2 ⊢
    generalize a ++ ls.flatMap (nl :: ·) = l' at *
    rw [List.filter_append] at hf1 hf2
    refine decode_block (i := l'.length) (j := l'.length + pemEnd.length) (pre := [32]) fuel hty hX (findStart_begin _) hg
      (tyOk_of_plain ha) ?hends ?hb ?hd tyOk_space ?hd'
    case hends => rw [if_neg (ne_true_of_eq_false hnot), hidx]; rfl
    case hb =>
      rw [List.append_assoc, List.append_assoc, List.take_left, List.append_cancel_right hf2]
      -- in `hf1` the filtered `[nl]` is `[]`
      exact (congrArg decLenient ((List.append_nil _).symm.trans hf1)).trans hbs
    -- `pemEnd` has ten bytes, the last of them a space
    case hd => exact List.drop_left' (by rw [List.length_append, List.length_append]; rfl)
    case hd' => rw [List.append_assoc, List.append_assoc]; exact List.drop_length_add_append (i := 9) ..

/-- the round trip in its general form: the block is read back whatever line end `X` follows the END line -/
theorem decode_encode_gen (ty bs X R : Bytes) (hty : TyOk ty) (hX : LineEnd X R) (fuel : Nat) :
    decode (fuel + 1) (encodeNoNl ty bs ++ X) = some (⟨ty, bs⟩, R) := by
  obtain ⟨ls, hls, hfl, hL⟩ := lines_eq_flatMap _ _ (enc_plain bs) (Nat.lt_succ_self _)
  rw [encodeNoNl_append, hL]
  exact decode_lines ty bs X R hty hX ls hls (hfl ▸ decLenient_enc bs) fuel

/-- **PEM round trip** (the model of `pem.Decode` applied to the model of `pem.Encode`), contents of any length -/
theorem decode_encode (ty bs tail : Bytes) (hty : TyOk ty) (fuel : Nat) :
    decode (fuel + 1) (encode ty bs ++ tail) = some (⟨ty, bs⟩, tail) := by
  rw [encode_eq, List.append_assoc]
  exact decode_encode_gen ty bs (nl :: tail) tail hty (lineEnd_nl tail) fuel

/-- the last byte of the file, a line feed, may be missing (`C15_last_line_feed_may_be_missing`) -/
theorem decode_encode_eof (ty bs : Bytes) (hty : TyOk ty) (fuel : Nat) :
    decode (fuel + 1) ((encode ty bs).dropLast) = some (⟨ty, bs⟩, []) := by
  rw [encode_eq, List.dropLast_concat, ← List.append_nil (encodeNoNl ty bs)]
  exact decode_encode_gen ty bs [] [] hty lineEnd_eof fuel

/-- same statement as `decode_encode` -/
theorem decode_encode' (ty bs tail : Bytes) (hty : TyOk ty) (fuel : Nat) :
    decode (fuel + 1) (encode ty bs ++ tail) = some (⟨ty, bs⟩, tail) := decode_encode ty bs tail hty fuel

/-- a first line that is not PEM (the `#HASH:` line) is skipped: the scan resumes after the next `-----BEGIN ` -/
theorem findStart_after_line (h x : Bytes) (hnl : ∀ c ∈ h, c ≠ nl) (hh : h.head? ≠ some 45) :
    findStart (h ++ nl :: (beginMark ++ x)) = some x := by
  have hb : beginMark.isPrefixOf (h ++ nl :: (beginMark ++ x)) = false := by
    cases h with
    | nil => exact isPrefixOf_cons_ne (by decide) _ _
    | cons c cs => exact isPrefixOf_cons_ne (fun hc => hh (by simp [hc])) _ _
  rw [findStart, hb, pemStart, indexOf_skip nl beginMark h _ hnl, ← List.cons_append, indexOf_prefix]
  simp only [Bool.false_eq_true, if_false, Option.map_some, Nat.zero_add, List.drop_length_add_append]
  rfl

theorem decode_after_line (h y : Bytes) (hnl : ∀ c ∈ h, c ≠ nl) (hh : h.head? ≠ some 45) (hy : beginMark <+: y) (fuel : Nat) :
    decode (fuel + 1) (h ++ nl :: y) = decode (fuel + 1) y := by
  obtain ⟨x, rfl⟩ := hy
  unfold decode
  rw [findStart_after_line h x hnl hh, findStart_begin]

theorem readAll_blocks (bl : List (Bytes × Bytes)) (fuel : Nat) (hty : ∀ b ∈ bl, TyOk b.1) (hl : bl.length < fuel) :
    readAll fuel (bl.flatMap fun b => encode b.1 b.2) = (bl.map fun b => ⟨b.1, b.2⟩, false) := by
  induction fuel generalizing bl with
  | zero => cases hl
  | succ f ih =>
    cases bl with
    | nil => rfl
    | cons b bl =>
      rw [List.forall_mem_cons] at hty
      simp only [List.flatMap_cons, readAll, decodeTop]
      rw [decode_encode b.1 b.2 _ hty.1]
      exact congrArg (fun r => (_ :: r.1, r.2)) (ih bl hty.2 (Nat.lt_of_succ_lt_succ hl))

theorem exportFile_eq (hash : Bytes) (c k r : Option Bytes) : exportFile hash c k r =
    (hashPrefix ++ enc hash) ++ nl :: (c.toList.map (tCertificate, ·) ++ k.toList.map (tPrivateKey, ·) ++
      r.toList.map (tRequest, ·)).flatMap fun b => encode b.1 b.2 := by
  have h : ∀ (t : Bytes) (o : Option Bytes),
      (o.toList.map (t, ·)).flatMap (fun b => encode b.1 b.2) = (match o with | some x => encode t x | none => []) := by
    intro t o; cases o <;> simp
  simp only [List.flatMap_append, h, exportFile, List.append_assoc]
  rfl -- the `match`es of `exportFile` and of `h` are different auxiliary definitions with the same body

theorem hashLine_noNl (hash : Bytes) : ∀ x ∈ hashPrefix ++ enc hash, x ≠ nl := fun x hx =>
  (List.mem_append.mp hx).elim ((by decide : ∀ x ∈ hashPrefix, x ≠ nl) x) ((tyOk_of_plain (enc_plain hash)).noNl x)

/-- `readAll_exportFile` with any fuel above the number of blocks -/
theorem readAll_exportFile_fuel (hash c : Bytes) (k r : Option Bytes) (fuel : Nat) :
    readAll (fuel + 4) (exportFile hash (some c) k r) =
      ([⟨tCertificate, c⟩] ++ k.toList.map (fun x => ⟨tPrivateKey, x⟩) ++ r.toList.map (fun x => ⟨tRequest, x⟩), false) := by
  have hbl : ∀ b ∈ k.toList.map (tPrivateKey, ·) ++ r.toList.map (tRequest, ·), TyOk b.1 := by
    simp only [List.mem_append, List.mem_map]
    rintro _ (⟨_, _, rfl⟩ | ⟨_, _, rfl⟩)
    · exact ty_ok.2.1
    · exact ty_ok.2.2
  rw [exportFile_eq, readAll, decodeTop]
  simp only [Option.toList_some, List.map_cons, List.map_nil, List.cons_append, List.nil_append, List.flatMap_cons]
  rw [decode_after_line _ _ (hashLine_noNl hash) (by simp [hashPrefix])
    (by rw [encode_eq, List.append_assoc, encodeNoNl_append]; exact List.prefix_append ..), decode_encode _ _ _ ty_ok.1]
  -- at most two more blocks
  simp only [readAll_blocks _ (fuel + 3) hbl (Nat.lt_add_left fuel (by cases k <;> cases r <;> exact Nat.le_of_ble_eq_true rfl))]
  cases k <;> cases r <;> rfl

/-- what `exportPemFile` writes, `ReadPem`'s loop reads as exactly those blocks, without its trailing-garbage error (in gopki's terms: `C17_pem_file_roundtrip`) -/
theorem readAll_exportFile (hash c : Bytes) (k r : Option Bytes) :
    readAll 5 (exportFile hash (some c) k r) =
      ([⟨tCertificate, c⟩] ++ k.toList.map (fun x => ⟨tPrivateKey, x⟩) ++ r.toList.map (fun x => ⟨tRequest, x⟩), false) :=
  readAll_exportFile_fuel hash c k r 1

/-- `importCertConfigFile`'s scan for the hash line, on what `exportPemFile` writes (`C17_stored_hash_roundtrip`) -/
theorem readHash_exportFile (hash : Bytes) (c k r : Option Bytes) : readHash (exportFile hash c k r) = some hash := by
  rw [readHash, exportFile_eq, List.append_assoc, indexOf_prefix]
  simp only [List.drop_zero]
  rw [← List.append_assoc, splitNl_line _ _ (hashLine_noNl hash)]
  simp only [List.drop_left]
  exact V1.goB64Decode_enc hash

/-- **what gopki writes, gopki imports**: certificate and key come back as written; a request comes back exactly when no key
    stands in the file (with both, `importPem` keeps the key only — the entity then continues with its key) -/
theorem import_exportFile (hash c : Bytes) (k r : Option Bytes) :
    importParts (readAll 5 (exportFile hash (some c) k r)).1 = ⟨some c, k, if k.isSome then none else r⟩ := by
  rw [readAll_exportFile]
  -- the three type strings differ and `PRIVATE KEY` is a key type: `readParts` on at most three blocks, by evaluation
  cases k <;> cases r <;> rfl

end Pem
