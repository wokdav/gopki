import Gopki.Lemmas.ExceptLemmas
import Gopki.Lemmas.TagsOk
import Gopki.Lemmas.OidLemmas
import Gopki.Lemmas.NegInt
import Gopki.Lemmas.StrLemmas
import Gopki.Spec.Ext
/-! What each reader of `Spec/Ext.lean` returns on what the corresponding writer of `Model/Extensions.lean`
    produces: one lemma per primitive, one per combinator (`SEQUENCE OF`, `EXPLICIT`, an OPTIONAL member of a
    SEQUENCE, also on the writer's side: `oidR_eq`, `optR_bind`).  `AdmRound.lean` assembles its round trips from
    these without case analysis on which optional members are present. -/

namespace ExtRound
open Asn1

/-- an OID the model accepts and whose arcs fit 63 bits -/
def OidOk (o : List Nat) : Prop := oidValid o = true ∧ ∀ a ∈ o, a < 2 ^ 63

end ExtRound

namespace SpecExt
open Der Asn1 X509 Cert ExtRound

theorem bytesStr_toUTF8 (s : String) : bytesStr s.toUTF8.toList = some s := StrLemmas.fromUTF8_toUTF8_list s

theorem decOid_of_ok {o : List Nat} (h : OidOk o) : decOid (oidContent o) = some o := OidLemmas.decOid_oidContent o h.1 h.2

theorem decOidT_tOid {o : List Nat} (h : OidOk o) : decOidT (tOid o) = some o := decOid_of_ok h
theorem decIa5T_tIA5 (s : String) : decIa5T (tIA5 s) = some s := bytesStr_toUTF8 s
theorem decDirString_tUtf8 (s : String) : decDirString (tUtf8 s) = some s := bytesStr_toUTF8 s
theorem decPrintableT_tPrintable (s : String) : decPrintableT (tPrintable s) = some s := bytesStr_toUTF8 s
theorem decDisplayText_tUtf8 (s : String) : decDisplayText (tUtf8 s) = some s := bytesStr_toUTF8 s

theorem decGeneralName_marshal (g : GeneralName) : decGeneralName g.marshal = some g := by
  cases g with
  | ip a b c d => rfl
  | _ s => rw [GeneralName.marshal, decGeneralName, bytesStr_toUTF8]; rfl

theorem tagsOk_marshal (g : GeneralName) : tagsOk g.marshal = true := by cases g <;> rfl

theorem decSeqOf_map {α : Type} {d : Tlv → Option α} {f : α → Tlv} {l : List α} (h : ∀ a ∈ l, d (f a) = some a) :
    decSeqOf d (.cons 0x30 (l.map f)) = some l := List.mapM_map_eq_some_self h

theorem decIntList_map (ns : List Int) : decIntList (ns.map tInt) = some ns :=
  List.mapM_map_eq_some_self fun n _ => NegInt.decInt_intBytes n

theorem decExplicit0_tExplicit {α : Type} (d : Tlv → Option α) (t : Tlv) : decExplicit0 d (tExplicit 0 t) = d t := rfl
theorem decExplicit1_tExplicit {α : Type} (d : Tlv → Option α) (t : Tlv) : decExplicit1 d (tExplicit 1 t) = d t := rfl

/-- an OPTIONAL member in front of `rest`: read when it is there, skipped when it is not, provided nothing that
    may follow is taken for it -/
theorem takeIf_opt {α : Type} {p : Tlv → Option α} {c : Prop} [Decidable c] {x : Tlv} {a : α} {rest : List Tlv}
    (hx : ¬c → p x = some a) (hrest : ∀ t ∈ rest, p t = none) :
    takeIf p ((if c then [] else [x]) ++ rest) = (if c then none else some a, rest) := by
  by_cases h : c
  · cases rest with
    | nil => simp [h, takeIf]
    | cons t r => simp [h, takeIf, hrest t (List.mem_cons_self ..)]
  · simp [h, takeIf, hx h]

theorem takeIf_opt_last {α : Type} {p : Tlv → Option α} {c : Prop} [Decidable c] {x : Tlv} {a : α}
    (hx : ¬c → p x = some a) : takeIf p (if c then [] else [x]) = (if c then none else some a, []) := by
  have := takeIf_opt (rest := []) hx nofun
  rwa [List.append_nil] at this

/-! the side condition of `takeIf_opt`, member by member -/
theorem rejects_opt_last {α : Type} {p : Tlv → Option α} {c : Prop} [Decidable c] {x : Tlv}
    (hx : ¬c → p x = none) : ∀ t ∈ (if c then [] else [x]), p t = none := by
  by_cases hc : c
  · rw [if_pos hc]; nofun
  · rw [if_neg hc]; exact List.forall_mem_singleton.mpr (hx hc)

theorem rejects_opt {α : Type} {p : Tlv → Option α} {c : Prop} [Decidable c] {x : Tlv} {rest : List Tlv}
    (hx : ¬c → p x = none) (hrest : ∀ t ∈ rest, p t = none) : ∀ t ∈ (if c then [] else [x]) ++ rest, p t = none :=
  List.forall_mem_append.mpr ⟨rejects_opt_last hx, hrest⟩

/-- the reader's default for an absent member is the value that made the writer omit it -/
theorem getD_opt {α : Type} {c : Prop} [Decidable c] {a d : α} (h : c → a = d) :
    (if c then none else some a).getD d = a := by
  by_cases hc : c <;> simp [hc, h]

theorem oidR_eq {o : Oid} (h : OidOk o) : oidR o = .ok (tOid o) := by simp [oidR, h.1]; rfl
theorem ia5R_eq {s : String} (h : ia5Valid s = true) : ia5R s = .ok (tIA5 s) := by simp [ia5R, h]; rfl
theorem printableR_eq {s : String} (h : printableValid s = true) : printableR s = .ok (tPrintable s) := by
  simp [printableR, h]; rfl

/-- an OPTIONAL member whose writer may fail, as `do` notation lays out `let m ← if c then pure [] else …; k m` -/
theorem optR_bind {β γ : Type} {c : Prop} [Decidable c] {e : R γ} {g : γ → Tlv} {y : γ} {k : List Tlv → R β}
    (h : ¬c → e = .ok y) :
    (if c then (pure [] : R (List Tlv)) >>= k else (e >>= fun v => pure [g v]) >>= k) = k (if c then [] else [g y]) := by
  by_cases hc : c
  · simp only [hc, if_true]; rfl
  · simp only [hc, if_false, h hc]; rfl

end SpecExt
