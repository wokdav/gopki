import Gopki.Lemmas.Readers
/-! certificatePolicies: what `NewCertificatePolicies` (model) writes is read back by the RFC 5280 decoder. -/
namespace PolicyRound
open Der Asn1 X509 Cert SpecExt ExtRound

def specNotice (n : Cert.UserNotice) : SpecExt.UserNotice :=
  ⟨if n.organization.isEmpty && n.numbers.isNone then none else some (n.organization, n.numbers.getD []),
   if n.text.isEmpty then none else some n.text⟩

def specQualifier : Cert.Qualifier → SpecExt.Qualifier
  | .cps u => .cps u
  | .notice n => .notice (specNotice n)

def specPolicy (p : PolicyInfo) : List Nat × Option (List SpecExt.Qualifier) := (p.oid, p.qualifiers.map (·.map specQualifier))

/-- what the encoder accepts and RFC 5280 can express: a CPS URI is IA5, a user notice has some content -/
def QualOk : Cert.Qualifier → Prop
  | .cps u => ia5Valid u = true
  | .notice n => (n.organization.isEmpty && n.numbers.isNone && n.text.isEmpty) = false

def PolicyOk (p : PolicyInfo) : Prop := OidOk p.oid ∧ ∀ q ∈ p.qualifiers.getD [], QualOk q

/-- the qualifier the encoder writes, explicitly -/
def qt : Cert.Qualifier → Tlv
  | .cps u => tSeq [tOid oidQtCps, tIA5 u]
  | .notice n => tSeq [tOid oidQtUnotice, userNoticeTlv n]

theorem qualifierTlv_eq (q : Cert.Qualifier) (h : QualOk q) : qualifierTlv q = .ok (qt q) := by
  cases q with
  | cps u => simp only [qualifierTlv, ia5R_eq (show ia5Valid u = true from h)]; rfl
  | notice n => simp only [qualifierTlv, show (_ && _) = false from h]; rfl

theorem tagsOk_notice (n : Cert.UserNotice) : tagsOk (userNoticeTlv n) = true := by
  simp [userNoticeTlv]

theorem tagsOk_qt (q : Cert.Qualifier) : tagsOk (qt q) = true := by
  cases q with
  | cps u => rfl
  | notice n => simp [qt, tagsOk_notice]

theorem decQualifier_qt (q : Cert.Qualifier) (h : QualOk q) : decQualifier (qt q) = some (specQualifier q) := by
  have hcps := decOid_of_ok (o := oidQtCps) ⟨by decide, by decide⟩
  have hun := decOid_of_ok (o := oidQtUnotice) ⟨by decide, by decide⟩
  -- `rw [decQualifier]` uses the equation of the shape at hand; its condition is `hcps` / `hun`
  cases q with
  | cps u => rw [qt, tSeq, tOid, tIA5, decQualifier, bytesStr_toUTF8]; exacts [rfl, hcps]
  | notice n =>
    have ho := decDisplayText_tUtf8 n.organization
    have ht := decDisplayText_tUtf8 n.text
    simp only [tUtf8] at ho ht
    simp only [qt, tSeq, tOid, userNoticeTlv, specQualifier, specNotice]
    -- the reader tells the shapes apart by the number of members, so the cases are the writer's
    by_cases hr : (n.organization.isEmpty && n.numbers.isNone) = true <;> by_cases hx : n.text.isEmpty = true
    · exact absurd h (by simp [QualOk, hr, hx])
    all_goals simp only [hr, hx, if_true, if_false, List.nil_append, List.append_nil, List.cons_append, Bool.false_eq_true, tUtf8]
    · rw [decQualifier, ht]; exacts [rfl, hun, nofun]
    · rw [decQualifier, ho, decIntList_map]; exacts [rfl, hun]
    · rw [decQualifier, ho, decIntList_map, ht]; exacts [rfl, hun]

/-- the PolicyInformation the encoder writes, explicitly -/
def pt (p : PolicyInfo) : Tlv :=
  match p.qualifiers with
  | none => tSeq [tOid p.oid]
  | some qs => tSeq [tOid p.oid, tSeq (qs.map qt)]

theorem policyInfoTlv_eq (p : PolicyInfo) (h : PolicyOk p) : policyInfoTlv p = .ok (pt p) := by
  unfold policyInfoTlv pt
  rw [oidR_eq h.1]
  cases hqs : p.qualifiers with
  | none => rfl
  | some qs =>
    have : qs.mapM qualifierTlv = .ok (qs.map qt) :=
      List.mapM_eq_pure_map fun q hq => qualifierTlv_eq q (h.2 q (by simp [hqs, hq]))
    simp only [bind, Except.bind, pure, Except.pure, this]

theorem tagsOk_pt (p : PolicyInfo) : tagsOk (pt p) = true := by
  unfold pt
  cases p.qualifiers <;> simp [tagsOk_qt]

theorem decPolicyInfo_pt (p : PolicyInfo) (h : PolicyOk p) : decPolicyInfo (pt p) = some (specPolicy p) := by
  unfold pt specPolicy
  cases hqs : p.qualifiers with
  | none => simp only [tSeq, tOid, decPolicyInfo, decOid_of_ok h.1]; rfl
  | some qs =>
    have : (qs.map qt).mapM decQualifier = some (qs.map specQualifier) :=
      List.mapM_map_eq_some fun q hq => decQualifier_qt q (h.2 q (by simp [hqs, hq]))
    simp only [tSeq, tOid, decPolicyInfo, decOid_of_ok h.1, this]; rfl

end PolicyRound
