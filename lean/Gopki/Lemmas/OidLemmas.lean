import Gopki.Spec.X509
import Gopki.Base.Asn1
import Mathlib.Tactic.Ring   -- no `ring` below; but statements downstream elaborate `2 ^ 64` through Mathlib's `Monoid.npow` only while this is upstream
/-! OBJECT IDENTIFIER content: the base-128 encoder of `Asn1` and the decoder of `Spec.X509` are inverse
    on every OID Go's `makeObjectIdentifier` accepts (arcs below 2^63), and what the encoder writes passes
    `oidCanonical`.  The encoder's loop with its fuel and accumulator is met once, in `go_eq`; everything else
    is said of `hi`, the same digits by plain recursion. -/
namespace OidLemmas
open Der Asn1 X509

theorem ofNat_add_128 (x : Nat) (h : x < 128) : (UInt8.ofNat (x + 128)) ≥ 128 ∧ (UInt8.ofNat (x + 128)).toNat - 128 = x := by
  have : (UInt8.ofNat (x + 128)).toNat = x + 128 := UInt8.toNat_ofNat_of_lt' (Nat.add_lt_add_right h 128)
  refine ⟨UInt8.le_iff_toNat_le.mpr ?_, ?_⟩ <;> rw [this]
  · exact Nat.le_add_left 128 x
  · exact Nat.add_sub_cancel ..

theorem ofNat_lt_128 (x : Nat) (h : x < 128) : ¬ ((UInt8.ofNat x) ≥ 128) ∧ (UInt8.ofNat x).toNat = x := by
  have : (UInt8.ofNat x).toNat = x := UInt8.toNat_ofNat_of_lt' (Nat.lt_trans h (by decide))
  refine ⟨fun hge => ?_, this⟩
  have h128 : 128 ≤ (UInt8.ofNat x).toNat := UInt8.le_iff_toNat_le.mp hge
  omega

/-- the base-128 digits of `m`, most significant first, each with the continuation bit; none for `0` -/
def hi (m : Nat) : Bytes := if m = 0 then [] else hi (m / 128) ++ [UInt8.ofNat (m % 128 + 128)]
decreasing_by exact Nat.div_lt_self (Nat.pos_of_ne_zero ‹_›) (by decide)

theorem hi_zero : hi 0 = [] := by rw [hi, if_pos rfl]

theorem hi_pos {m : Nat} (h : m ≠ 0) : hi m = hi (m / 128) ++ [UInt8.ofNat (m % 128 + 128)] := by rw [hi, if_neg h]

theorem go_eq (fuel m : Nat) (acc : Bytes) (h : m < 128 ^ fuel) : base128.go fuel m acc = hi m ++ acc := by
  induction fuel generalizing m acc with
  | zero =>
    obtain rfl : m = 0 := Nat.lt_one_iff.mp h
    rw [hi_zero]; rfl
  | succ fuel ih =>
    rw [base128.go]
    split
    · subst m; rw [hi_zero]; rfl
    · rename_i hm
      rw [ih _ _ (Nat.div_lt_of_lt_mul (Nat.pow_succ' ▸ h)), hi_pos hm, List.append_assoc]; rfl

/-- 64 rounds of the loop and the last digit: every `n` below 128^65 is written out in full -/
theorem base128_eq (n : Nat) (h : n < 128 ^ 65) : base128 n = hi (n / 128) ++ [UInt8.ofNat (n % 128)] :=
  go_eq 64 _ _ (Nat.div_lt_of_lt_mul h)

theorem base128_ne_nil (n : Nat) (h : n < 128 ^ 65) : base128 n ≠ [] := by
  rw [base128_eq n h]; simp

theorem decBase128_hi (m : Nat) (r : Bytes) : decBase128 (hi m ++ r) 0 = decBase128 r m := by
  induction m using hi.induct generalizing r with
  | case1 => rw [hi_zero]; rfl
  | case2 m hm ih =>
    obtain ⟨hge, hval⟩ := ofNat_add_128 (m % 128) (Nat.mod_lt _ (by decide))
    rw [hi_pos hm, List.append_assoc, ih, List.singleton_append, decBase128, if_pos hge, hval, Nat.div_add_mod']

theorem decBase128_base128 (n : Nat) (h : n < 128 ^ 65) (r : Bytes) : decBase128 (base128 n ++ r) 0 = some (n, r) := by
  obtain ⟨hlt, hval⟩ := ofNat_lt_128 (n % 128) (Nat.mod_lt _ (by decide))
  rw [base128_eq n h, List.append_assoc, decBase128_hi, List.singleton_append, decBase128, if_neg hlt, hval,
    Nat.div_add_mod']

/-- what can be read is not empty, so one round of `decArcs` reads it -/
theorem decArcs_succ {c r : Bytes} {n : Nat} (fuel : Nat) (h : decBase128 c 0 = some (n, r)) :
    decArcs (fuel + 1) c = (decArcs fuel r).map (n :: ·) := by
  cases c with
  | nil => cases h
  | cons b c => simp only [decArcs, h]

theorem decArcs_flatMap (arcs : List Nat) (fuel : Nat) (hf : (arcs.flatMap base128).length < fuel)
    (hall : ∀ a ∈ arcs, a < 128 ^ 65) : decArcs fuel (arcs.flatMap base128) = some arcs := by
  induction arcs generalizing fuel with
  | nil => cases fuel with
    | zero => cases hf
    | succ fuel => rfl
  | cons a rest ih =>
    obtain ⟨ha, hrest⟩ := List.forall_mem_cons.mp hall
    have := List.length_pos_iff.mpr (base128_ne_nil a ha)
    rw [List.flatMap_cons, List.length_append] at hf
    obtain ⟨fuel, rfl⟩ := Nat.exists_eq_add_one_of_ne_zero (Nat.ne_of_gt (Nat.zero_lt_of_lt hf))
    rw [List.flatMap_cons, decArcs_succ fuel (decBase128_base128 a ha _),
      ih fuel (Nat.lt_of_lt_of_le (Nat.lt_add_of_pos_left this) (Nat.le_of_lt_succ hf)) hrest]
    rfl

/-- the scan over the continuation octets of `m` leaves a group's start unless there are none, and is not
    stopped there: the leading octet is not 0x80 because the leading digit is not 0 -/
theorem canonical_hi (m : Nat) (r : Bytes) : oidCanonical.go true (hi m ++ r) = oidCanonical.go (decide (m = 0)) r := by
  induction m using hi.induct generalizing r with
  | case1 => rw [hi_zero]; rfl
  | case2 m hm ih =>
    obtain ⟨hge, hval⟩ := ofNat_add_128 (m % 128) (Nat.mod_lt _ (by decide))
    rw [hi_pos hm, List.append_assoc, ih, List.singleton_append, oidCanonical.go, if_neg,
      decide_eq_false hm, decide_eq_false (UInt8.not_lt.mpr hge)]
    rw [Bool.and_eq_true, decide_eq_true_eq, decide_eq_true_eq]
    rintro ⟨hq, h80⟩
    rw [h80] at hval
    exact hm (by rw [← Nat.div_add_mod' m 128, hq, ← hval]; rfl)

theorem canonical_base128 (n : Nat) (h : n < 128 ^ 65) (r : Bytes) :
    oidCanonical.go true (base128 n ++ r) = oidCanonical.go true r := by
  obtain ⟨hlo, _⟩ := ofNat_lt_128 (n % 128) (Nat.mod_lt _ (by decide))
  rw [base128_eq n h, List.append_assoc, canonical_hi, List.singleton_append, oidCanonical.go, if_neg,
    decide_eq_true (UInt8.not_le.mp hlo)]
  rw [Bool.and_eq_true, decide_eq_true_eq, decide_eq_true_eq]
  rintro ⟨-, h80⟩
  rw [h80] at hlo
  exact hlo (by decide)

theorem canonical_flatMap (arcs : List Nat) (h : ∀ a ∈ arcs, a < 128 ^ 65) :
    oidCanonical.go true (arcs.flatMap base128) = true := by
  induction arcs with
  | nil => rfl
  | cons a as ih =>
    rw [List.flatMap_cons, canonical_base128 a (h a (by simp))]
    exact ih fun x hx => h x (by simp [hx])

theorem oidCanonical_flatMap {arcs : List Nat} (hne : arcs ≠ []) (h : ∀ a ∈ arcs, a < 128 ^ 65) :
    oidCanonical (arcs.flatMap base128) = true := by
  rw [oidCanonical, canonical_flatMap arcs h, Bool.and_true, Bool.not_eq_true', List.isEmpty_eq_false_iff]
  obtain ⟨a, as, rfl⟩ := List.exists_cons_of_ne_nil hne
  exact List.append_ne_nil_of_left_ne_nil (base128_ne_nil a (h a (by simp))) _

theorem oidContent_cons (a b : Nat) (rest : List Nat) :
    oidContent (a :: b :: rest) = ((a * 40 + b) :: rest).flatMap base128 := rfl

/-- arcs below 2^63 give sub-identifiers below 41 · 2^63, which `base128` writes out in full -/
theorem subids_lt {a b : Nat} {rest : List Nat} (hb : ∀ x ∈ a :: b :: rest, x < 2 ^ 63) :
    ∀ x ∈ (a * 40 + b) :: rest, x < 128 ^ 65 := by
  obtain ⟨ha, hb, hr⟩ : _ ∧ _ ∧ _ := by simpa only [List.forall_mem_cons] using hb
  exact List.forall_mem_cons.mpr ⟨by omega, fun x hx => Nat.lt_trans (hr x hx) (by decide)⟩

/-- **OID round trip**: for every OID Go accepts (first arc ≤ 2, second < 40 unless the first is 2) with
    arcs below 2^63, the content octets written by the model decode to the same arcs -/
theorem decOid_oidContent (arcs : List Nat) (hv : oidValid arcs = true) (hb : ∀ a ∈ arcs, a < 2 ^ 63) :
    decOid (oidContent arcs) = some arcs := by
  rcases arcs with _ | ⟨a, _ | ⟨b, rest⟩⟩
  · cases hv
  · cases hv
  rw [decOid, oidContent_cons, decArcs_flatMap _ _ (Nat.lt_succ_self _) (subids_lt hb)]
  simp only [oidValid, Bool.and_eq_true, decide_eq_true_eq, Bool.or_eq_true] at hv
  obtain ⟨h2, h3⟩ := hv
  simp only []  -- reduces the `match some (_ :: _)` of `decOid`
  -- the decoder's split of the first sub-identifier undoes `a * 40 + b`
  obtain rfl | rfl | rfl := (by decide : ∀ a ≤ 2, a = 0 ∨ a = 1 ∨ a = 2) a h2
  · rw [Nat.zero_add, if_pos (h3.resolve_left (by decide))]; rfl
  · have hb40 : b < 40 := h3.resolve_left (by decide)
    rw [if_neg (by omega), if_pos (by omega), Nat.add_sub_cancel_left]; rfl
  · rw [if_neg (by omega), if_neg (by omega), Nat.add_sub_cancel_left]; rfl

end OidLemmas
