/-! UTF-8: a string's octets, as a list, are read back as the same string. -/
namespace StrLemmas

theorem loop_spec (bs : ByteArray) (i : Nat) (r : List UInt8) :
    ByteArray.toList.loop bs i r = r.reverse ++ bs.data.toList.drop i := by
  fun_induction ByteArray.toList.loop bs i r with
  | case1 i r hi ih =>
    have hget : bs.get! i = bs.data.toList[i]'hi := (getElem!_pos bs.data i hi).trans (Array.getElem_toList hi).symm
    rw [ih, List.drop_eq_getElem_cons hi, hget]; simp
  | case2 i r hi => simp [List.drop_eq_nil_of_le (Nat.le_of_not_lt hi : bs.data.toList.length ≤ i)]

theorem toList_eq (bs : ByteArray) : bs.toList = bs.data.toList := by
  simp [ByteArray.toList, loop_spec]

theorem fromUTF8_toUTF8_list (s : String) : String.fromUTF8? ⟨s.toUTF8.toList.toArray⟩ = some s := by
  rw [toList_eq, Array.toArray_toList]
  -- `fromUTF8?` asks whether the octets are valid UTF-8; a string carries the proof that its own are
  exact dif_pos s.isValidUTF8

end StrLemmas
