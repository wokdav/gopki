import Gopki.Base.DerProof
import Gopki.Spec.X509
/-! Consequences of `Der.dec_enc` / `Der.dec_sound` used by the property theorems:
    the strict decoder reads every well-formed value back from its encoding (`decodeDer_enc`), and
    whatever it accepts re-encodes to the same bytes (`decodeDer_sound`). -/
namespace Der

theorem encLen_length_pos (n : Nat) : 0 < (encLen n).length := by
  unfold encLen; split <;> simp

theorem enc_length_ge_two (t : Tlv) : 2 ≤ t.enc.length := by
  rw [t.enc_eq, List.length_cons, List.length_append]
  exact Nat.succ_le_succ (Nat.le_trans (encLen_length_pos _) (Nat.le_add_right _ _))

mutual
theorem need_le_enc : ∀ (t : Tlv), need t ≤ t.enc.length
  | .prim tg c => Nat.le_of_succ_le (enc_length_ge_two _)
  | .cons tg cs => by
    have h := needList_le_enc cs
    have := encLen_length_pos (encList cs).length
    simp only [need, Tlv.enc, List.length_cons, List.length_append]
    omega
theorem needList_le_enc : ∀ (ts : List Tlv), needList ts ≤ (encList ts).length + 1
  | [] => by simp [needList]
  | x :: xs => by
    have h1 := need_le_enc x
    have h2 := needList_le_enc xs
    have h3 := enc_length_ge_two x
    simp only [needList, encList, List.length_append]
    omega
end

/-- `decodePrefix`-style decoding: a well-formed value followed by anything decodes to itself and the rest -/
theorem dec_enc_append (t : Tlv) (h : t.wf = true) (rest : Bytes) :
    dec ((t.enc ++ rest).length + 1) (t.enc ++ rest) = some (t, rest) :=
  dec_enc t h rest _ (by
    rw [List.length_append]; exact Nat.le_trans (need_le_enc t) (Nat.le_trans (Nat.le_add_right _ _) (Nat.le_succ _)))

/-- the whole input is one value -/
theorem dec_enc_self (t : Tlv) (h : t.wf = true) : dec (t.enc.length + 1) t.enc = some (t, []) := by
  simpa only [List.append_nil] using dec_enc_append t h []

end Der

namespace X509
open Der

theorem decodeDer_enc (t : Tlv) (h : t.wf = true) : decodeDer t.enc = some t := by
  rw [decodeDer, dec_enc_self t h]

theorem decodeDer_sound (bs : Bytes) (t : Tlv) (h : decodeDer bs = some t) : t.enc = bs := by
  unfold decodeDer at h
  split at h
  · rename_i t' heq
    obtain rfl := Option.some.inj h
    simpa using dec_sound _ _ _ _ heq
  · cases h

end X509
