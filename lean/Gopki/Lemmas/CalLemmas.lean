import Gopki.Base.Calendar
/-! The arithmetic core of the calendar laws, on Hinnant's March-based quantities: the month/day law (`Cal.doy_bounds`,
    `Cal.mp_inv`; the table of month starts `(153·mp + 2) / 5` enters in `Cal.mstart_succ`), and the year-of-era law (`Cal2.yoeOf_add` on the decomposition
    year = 100c + 4q + s, `Calendar.yoe_table`).  `Lemmas/CalInv.lean` assembles the days ↔ civil laws from these. -/
namespace Cal

/-- length of March-based month `mp` (0 = March … 11 = February) in March-based year-of-era `yoe` -/
def mlen (yoe mp : Int) : Int :=
  if mp = 11 then (if (yoe+1) % 4 = 0 ∧ ((yoe+1) % 100 ≠ 0 ∨ (yoe+1) % 400 = 0) then 29 else 28)
  else if mp = 1 ∨ mp = 3 ∨ mp = 6 ∨ mp = 8 then 30 else 31

def doyOf (mp d : Int) : Int := (153*mp + 2)/5 + d - 1
def doeOf (yoe doy : Int) : Int := yoe*365 + yoe/4 - yoe/100 + doy
def yoeOf (doe : Int) : Int := (doe - doe/1460 + doe/36524 - doe/146096)/365
def mpOf (doy : Int) : Int := (5*doy + 2)/153

theorem doy_bounds (yoe mp d : Int) (hy : 0 ≤ yoe ∧ yoe < 400) (hm : 0 ≤ mp ∧ mp ≤ 11)
    (hd : 1 ≤ d ∧ d ≤ mlen yoe mp) :
    0 ≤ doyOf mp d ∧ doyOf mp d ≤ 365 ∧
    (doyOf mp d = 365 → (yoe+1) % 4 = 0 ∧ ((yoe+1) % 100 ≠ 0 ∨ (yoe+1) % 400 = 0)) := by
  unfold doyOf mlen at *
  clear hy
  -- March-based month 11 is February, the only month that can end on day 365 of the March-based year
  by_cases h : mp = 11
  · subst h; omega
  · omega

/-- the month starts `(153 * mp + 2) / 5` of the March-based year differ by the month lengths (February, month 11, is the
    last and has no successor: the year plays no part) -/
theorem mstart_succ (yoe mp : Int) (hm : 0 ≤ mp ∧ mp ≤ 10) :
    (153 * (mp + 1) + 2) / 5 = (153 * mp + 2) / 5 + mlen yoe mp := by
  have key : ∀ n : Nat, n ≤ 10 → (153 * ((n : Int) + 1) + 2) / 5 = (153 * (n : Int) + 2) / 5 + mlen 0 n := by decide
  obtain ⟨n, rfl⟩ := Int.eq_ofNat_of_zero_le hm.1
  simp only [key n (Int.ofNat_le.mp hm.2), mlen, if_neg (show ¬(n : Int) = 11 by omega)]

theorem mp_inv (mp d : Int) (hm : 0 ≤ mp ∧ mp ≤ 11) (hd : 1 ≤ d ∧ d ≤ 31)
    (hd' : d ≤ (if mp = 11 then 29 else if mp = 1 ∨ mp = 3 ∨ mp = 6 ∨ mp = 8 then 30 else 31)) :
    mpOf (doyOf mp d) = mp ∧ doyOf mp d - (153 * mp + 2)/5 + 1 = d := by
  unfold mpOf doyOf
  -- day `d` of month `mp` lies before the start of month `mp + 1`
  by_cases h : mp = 11
  · subst h; omega
  · have := mstart_succ 0 mp (by omega)
    rw [mlen, if_neg h] at this
    rw [if_neg h] at hd'
    omega

end Cal

/-! `Cal.doeOf` and `Cal.yoeOf` once more on ℕ, where the year-of-era law is proved (`yoeOf_cast` takes it back to ℤ). -/
namespace Cal2
def doeOf (yoe doy : Nat) : Nat := yoe*365 + yoe/4 - yoe/100 + doy
def yoeOf (doe : Nat) : Nat := (doe - doe/1460 + doe/36524 - doe/146096)/365
def leap1 (yoe : Nat) : Bool := (yoe+1) % 4 == 0 && ((yoe+1) % 100 != 0 || (yoe+1) % 400 == 0)

/-- the two century terms of `yoeOf` on day `r` of century `c` of the era: `c` and `0`, each plus one on the final day of
    the era only, where they cancel -/
theorem century (c r x : Nat) (hc : c < 4) (hr : r ≤ 36524) (h : r = 36524 → c = 3) :
    x + (36524 * c + r) / 36524 - (36524 * c + r) / 146096 = x + c := by
  have hq : (36524 * c + r) / 36524 = c + r / 36524 ∧ (36524 * c + r) / 146096 = r / 36524 := by omega
  rw [hq.1, hq.2, ← Nat.add_assoc, Nat.add_sub_cancel]

/-- Why Hinnant's year-of-era formula is right.  Year `100c + 4q + s` of the era begins on day `36524c + 1461q + 365s`;
    written that way the three quotients inside `yoeOf` are explicit (`omega` finds none of them unaided): the first is
    `25c + q + A`, where `A` is one on the last days of a four-year cycle and else zero (all that matters: zero on day 0
    of a year, one on day 365); the other two are those of `century`. -/
theorem yoeOf_add (c q s d : Nat) (hc : c < 4) (hq : q < 25) (hs : s < 4) (hd : d < 366)
    (hl : d = 365 → s = 3 ∧ (q < 24 ∨ c = 3)) :
    yoeOf (36524 * c + (1461 * q + 365 * s + d)) = 100 * c + 4 * q + s ∧ 36524 * c + (1461 * q + 365 * s + d) < 146097 := by
  have hr : 1461 * q + 365 * s + d ≤ 36524 ∧ (1461 * q + 365 * s + d = 36524 → c = 3) := by omega
  obtain ⟨A, h1, hA⟩ : ∃ A, (36524 * c + (1461 * q + 365 * s + d)) / 1460 = 25 * c + q + A ∧ A ≤ d ∧ d < 365 + A :=
    ⟨(24 * c + q + 365 * s + d) / 1460, by omega⟩
  rw [yoeOf, century c _ _ hc hr.1 hr.2, h1]
  clear h1  -- a quotient fact `omega` does not need here: with it the call costs twice as much
  omega

/-- `yoeOf` read in `ℤ`: its two subtractions do not truncate -/
theorem yoeOf_cast (D : Nat) : ((yoeOf D : Nat) : Int) = ((D : Int) - D / 1460 + D / 36524 - D / 146096) / 365 := by
  have a : D / 1460 ≤ D := Nat.div_le_self ..
  have b : D / 146096 ≤ D - D / 1460 + D / 36524 := by omega
  simp only [yoeOf, Int.natCast_ediv, Int.natCast_sub b, Int.natCast_add, Int.natCast_sub a, Int.cast_ofNat_Int]
end Cal2

namespace Calendar

theorem yoe_table (yoe doy : Nat) (hy : yoe < 400) (hd : doy < 366) (hleap : doy = 365 → Cal2.leap1 yoe = true) :
    Cal2.yoeOf (Cal2.doeOf yoe doy) = yoe ∧ Cal2.doeOf yoe doy < 146097 := by
  obtain ⟨c, q, s, rfl, hc, hq, hs⟩ : ∃ c q s, yoe = 100 * c + 4 * q + s ∧ c < 4 ∧ q < 25 ∧ s < 4 :=
    ⟨yoe / 100, yoe % 100 / 4, yoe % 4, by omega⟩
  have he : Cal2.doeOf (100 * c + 4 * q + s) doy = 36524 * c + (1461 * q + 365 * s + doy) := by
    unfold Cal2.doeOf; omega
  rw [he]
  refine Cal2.yoeOf_add c q s doy hc hq hs hd fun h => ?_
  have := hleap h
  simp only [Cal2.leap1, Bool.and_eq_true, beq_iff_eq, Bool.or_eq_true, bne_iff_ne] at this
  omega

theorem daysInMonth_cases (y : Int) (m : Nat) : daysInMonth y m = 28 ∨ daysInMonth y m = 29 ∨ daysInMonth y m = 30 ∨ daysInMonth y m = 31 := by
  unfold daysInMonth; split <;> (try split) <;> simp

/-- the inverse law on one year, as a decidable check -/
def yearOk (y : Nat) : Bool :=
  (List.range 12).all fun mi => (List.range (daysInMonth (y : Int) (mi + 1))).all fun di =>
    civilFromDays (daysFromCivil (y : Int) (mi + 1) ((di + 1 : Nat) : Int)) == ((y : Int), mi + 1, di + 1)

end Calendar
