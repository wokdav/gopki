import Gopki.Lemmas.CalLemmas
/-! The calendar laws, for every year: civil → days → civil (month/day law and `era_split` on March-based coordinates,
    `civilFromDays_march`; `mlen_eq` translates); days → civil → days by surjectivity (count up from the start of the era,
    `next_month` at the month ends); the wall clock of `goDate` and back; `AddDate` as calendar addition. -/
namespace Calendar

theorem validDate_iff (y : Int) (m d : Nat) :
    validDate y m d = true ↔ (1 ≤ m ∧ m ≤ 12) ∧ (1 ≤ d ∧ d ≤ daysInMonth y m) := by
  simp only [validDate, Bool.and_eq_true, decide_eq_true_eq, and_assoc]

/-- era / year-of-era / day-of-year are recovered from the day number -/
theorem era_split (era yoe doy : Int) (hy : 0 ≤ yoe ∧ yoe < 400) (hd : 0 ≤ doy ∧ doy ≤ 365)
    (hleap : doy = 365 → (yoe + 1) % 4 = 0 ∧ ((yoe + 1) % 100 ≠ 0 ∨ (yoe + 1) % 400 = 0)) :
    let doe := yoe * 365 + yoe / 4 - yoe / 100 + doy
    let z := era * 146097 + doe
    z / 146097 = era ∧
    ((z - era * 146097) - (z - era * 146097) / 1460 + (z - era * 146097) / 36524 - (z - era * 146097) / 146096) / 365 = yoe ∧
    (z - era * 146097) - (365 * yoe + yoe / 4 - yoe / 100) = doy := by
  intro doe z
  -- everything is non-negative: move to naturals, where `yoe_table` is stated
  obtain ⟨n, rfl⟩ := Int.eq_ofNat_of_zero_le hy.1
  obtain ⟨k, rfl⟩ := Int.eq_ofNat_of_zero_le hd.1
  have hdoe : doe = (Cal2.doeOf n k : Nat) := by simp only [Cal2.doeOf]; omega
  have hl : k = 365 → Cal2.leap1 n = true := by
    simp only [Cal2.leap1, Bool.and_eq_true, beq_iff_eq, Bool.or_eq_true, bne_iff_ne]
    omega
  obtain ⟨ht1, ht2⟩ := yoe_table n k (by omega) (by omega) hl
  have hz : z - era * 146097 = doe := by simp only [z]; omega
  refine ⟨by simp only [z]; omega, ?_, by rw [hz]; simp only [doe]; omega⟩
  rw [hz, hdoe, ← Cal2.yoeOf_cast, ht1]

theorem isLeap_iff (y : Int) : isLeap y = true ↔ (y % 4 = 0 ∧ (y % 100 ≠ 0 ∨ y % 400 = 0)) := by
  simp [isLeap]

/-- the length of the March-based month `mp` of year-of-era `yoe` is that of the civil month it stands for: February is
    month 11 of the March-based year before, whose leap rule is that of `yoe + 1` -/
theorem mlen_eq (y y' yoe mp : Int) (m : Nat) (hm : 1 ≤ m ∧ m ≤ 12) (hy' : y' = if m ≤ 2 then y - 1 else y)
    (hyoe : yoe = y' - y' / 400 * 400) (hmp : mp = if m > 2 then (m : Int) - 3 else (m : Int) + 9) :
    Cal.mlen yoe mp = daysInMonth y m := by
  -- the two month numberings, compared month by month
  have key : ∀ m : Nat, m ≤ 12 → let mp : Int := if m > 2 then (m : Int) - 3 else m + 9
      (mp = 11 ↔ m = 2) ∧ ((mp = 1 ∨ mp = 3 ∨ mp = 6 ∨ mp = 8) ↔ (m = 4 ∨ m = 6 ∨ m = 9 ∨ m = 11)) := by decide
  obtain ⟨h11, h30⟩ := key m hm.2
  rw [← hmp] at h11 h30
  unfold Cal.mlen daysInMonth
  by_cases h2 : m = 2
  · subst h2
    rw [if_pos (by decide)] at hy'
    -- `yoe + 1` and `y` differ by a multiple of 400
    have e : (yoe + 1) % 4 = y % 4 ∧ (yoe + 1) % 100 = y % 100 ∧ (yoe + 1) % 400 = y % 400 := by omega
    simp only [h11.mpr, if_true, isLeap_iff, e]; split <;> rfl
  · simp only [mt h11.mp h2, h2, if_false, h30]; split <;> rfl

theorem civilFromDays_march (era yoe mp d : Int) (hy : 0 ≤ yoe ∧ yoe < 400) (hm : 0 ≤ mp ∧ mp ≤ 11)
    (hd : 1 ≤ d ∧ d ≤ Cal.mlen yoe mp) :
    civilFromDays (era * 146097 + (yoe * 365 + yoe / 4 - yoe / 100 + ((153 * mp + 2) / 5 + d - 1)) - 719468) =
      (if mp < 10 then yoe + era * 400 else yoe + era * 400 + 1, (if mp < 10 then mp + 3 else mp - 9).toNat, d.toNat) := by
  have hlen : Cal.mlen yoe mp ≤ if mp = 11 then 29 else if mp = 1 ∨ mp = 3 ∨ mp = 6 ∨ mp = 8 then 30 else 31 := by
    unfold Cal.mlen; split <;> (try split) <;> (try split) <;> omega
  have hmi := Cal.mp_inv mp d hm ⟨hd.1, by omega⟩ (by omega)
  have hdb := Cal.doy_bounds yoe mp d hy hm hd
  unfold Cal.doyOf at hdb
  unfold Cal.mpOf Cal.doyOf at hmi
  obtain ⟨h1, h2, h3⟩ := era_split era yoe _ hy ⟨hdb.1, hdb.2.1⟩ hdb.2.2
  unfold civilFromDays
  simp only [Int.sub_add_cancel, h1, h2, h3, hmi.1, hmi.2]
  -- the civil month `mp + 3` or `mp - 9` is January or February exactly when `mp ≥ 10`
  congr 1
  clear hdb hlen hmi h1 h2 h3 hd  -- quotient facts that `omega` would only labour over
  omega

theorem civilFromDays_daysFromCivil (y : Int) (m d : Nat) (hv : validDate y m d = true) :
    civilFromDays (daysFromCivil y m (d : Int)) = (y, m, d) := by
  obtain ⟨hm, hd⟩ := (validDate_iff y m d).mp hv
  -- `daysFromCivil` is the day number of these March-based coordinates
  refine (civilFromDays_march ((if m ≤ 2 then y - 1 else y) / 400) _ (if m > 2 then (m : Int) - 3 else m + 9) d
    (by omega) (by split <;> omega) ⟨by omega, by rw [mlen_eq y _ _ _ m hm rfl rfl rfl]; omega⟩).trans ?_
  simp only [Prod.mk.injEq]
  refine ⟨?_, ?_, ?_⟩ <;> omega

theorem daysFromCivil_add_day (y : Int) (m : Nat) (d e : Int) :
    daysFromCivil y m (d + e) = daysFromCivil y m d + e := by
  simp only [daysFromCivil]
  omega

/-- for a month in 1…12 `goDate` has nothing to normalise -/
theorem goDate_eq (y : Int) (m : Nat) (d : Int) (h mi s : Nat) (off : Int) (hm : 1 ≤ m ∧ m ≤ 12) :
    goDate y m d h mi s off = daysFromCivil y m d * 86400 + h * 3600 + mi * 60 + s - off := by
  have hy : y + ((m : Int) - 1) / 12 = y := by omega
  have hm' : (((m : Int) - 1) % 12).toNat + 1 = m := by omega
  rw [goDate, hy, hm', ← daysFromCivil_add_day, show (1 : Int) + (d - 1) = d by omega]

theorem wallOf_goDate (y : Int) (m d h mi s : Nat) (off : Int) (hv : validDate y m d = true)
    (hh : h < 24) (hmi : mi < 60) (hs : s < 60) :
    wallOf (goDate y (m : Int) (d : Int) h mi s off) off = ⟨y, m, d, h, mi, s⟩ := by
  have hr : (h * 3600 + mi * 60 + s) / 3600 = h ∧ (h * 3600 + mi * 60 + s) / 60 % 60 = mi ∧
      (h * 3600 + mi * 60 + s) % 60 = s := by omega
  have ht : (daysFromCivil y m (d : Int) * 86400 + (h : Int) * 3600 + (mi : Int) * 60 + (s : Int) - off + off) / 86400 = daysFromCivil y m (d : Int) ∧
      (daysFromCivil y m (d : Int) * 86400 + (h : Int) * 3600 + (mi : Int) * 60 + (s : Int) - off + off) % 86400 = (h * 3600 + mi * 60 + s : Nat) := by
    clear hr; omega  -- `hr` is of no use here and makes the call dearer
  rw [goDate_eq y m d h mi s off ((validDate_iff y m d).mp hv).1]
  simp only [wallOf, ht, civilFromDays_daysFromCivil y m d hv, Int.toNat_natCast, hr]

/-- **a date read as `YYYY-MM-DD` is local midnight of exactly that day**: the instant `goDate y m d 0 0 0 off`
    has the local wall clock `y-m-d 00:00:00` in the zone with offset `off`, for every valid date and every offset -/
theorem wallOf_goDate_midnight (y : Int) (m d : Nat) (off : Int) (hv : validDate y m d = true) :
    wallOf (goDate y (m : Int) (d : Int) 0 0 0 off) off = ⟨y, m, d, 0, 0, 0⟩ :=
  wallOf_goDate y m d 0 0 0 off hv (by decide) (by decide) (by decide)

theorem dim_cases (y : Int) (m : Nat) (h : 1 ≤ m ∧ m ≤ 12) :
    daysInMonth y m = (if m = 2 then (if isLeap y then 29 else 28) else if m = 4 ∨ m = 6 ∨ m = 9 ∨ m = 11 then 30 else 31) := rfl

/-- `daysFromCivil` without the era: the days before the March-based year `y'` by the Gregorian rule, the days before
    the March-based month `mp`, the day -/
theorem daysFromCivil_closed (y : Int) (m : Nat) (d y' mp : Int) (hy' : y' = if m ≤ 2 then y - 1 else y)
    (hmp : mp = if m > 2 then (m : Int) - 3 else (m : Int) + 9) :
    daysFromCivil y m d = 365 * y' + y' / 4 - y' / 100 + y' / 400 + (153 * mp + 2) / 5 + d - 719469 := by
  simp only [daysFromCivil, ← hy', ← hmp]
  clear hy' hmp
  omega

/-- a year has 365 days, a leap year one more -/
theorem year_step (y : Int) :
    365 * y + y / 4 - y / 100 + y / 400 =
      365 * (y - 1) + (y - 1) / 4 - (y - 1) / 100 + (y - 1) / 400 + (if isLeap y then 366 else 365) := by
  by_cases hl : isLeap y = true
  · have := (isLeap_iff y).mp hl
    have q4 : (y - 1) / 4 = y / 4 - 1 := by omega
    rw [if_pos hl, q4]; omega
  · have : ¬ (y % 4 = 0 ∧ (y % 100 ≠ 0 ∨ y % 400 = 0)) := fun h => hl ((isLeap_iff y).mpr h)
    rw [if_neg hl]; omega

/-- the day after the last day of a month is the first of the next month (next year after December) -/
theorem next_month (y : Int) (m : Nat) (h : 1 ≤ m ∧ m ≤ 12) :
    daysFromCivil (if m = 12 then y + 1 else y) (if m = 12 then 1 else m + 1) 1 = daysFromCivil y m (daysInMonth y m : Nat) + 1 := by
  -- January of the next year is month 13 of this one
  have h13 : daysFromCivil (if m = 12 then y + 1 else y) (if m = 12 then 1 else m + 1) 1 = daysFromCivil y (m + 1) 1 := by
    split
    · subst m
      rw [daysFromCivil_closed (y + 1) 1 1 y 10 (Int.add_sub_cancel y 1).symm rfl, daysFromCivil_closed y 13 1 y 10 rfl rfl]
    · rfl
  rw [h13]
  by_cases h2 : m = 2
  · -- February: the only month after which the March-based year changes
    subst h2
    rw [daysFromCivil_closed y 3 1 y 0 rfl rfl, daysFromCivil_closed y 2 _ (y - 1) 11 rfl rfl, year_step y, daysInMonth, if_pos rfl]
    split <;> omega
  · -- otherwise the next March-based month of the same March-based year
    obtain ⟨y', hy'⟩ : ∃ y', y' = if m ≤ 2 then y - 1 else y := ⟨_, rfl⟩
    obtain ⟨mp, hmp⟩ : ∃ mp : Int, mp = if m > 2 then (m : Int) - 3 else m + 9 := ⟨_, rfl⟩
    have hs := (Cal.mstart_succ _ mp (by omega)).trans (congrArg _ (mlen_eq y y' _ mp m h hy' rfl hmp))
    rw [daysFromCivil_closed y (m + 1) 1 y' (mp + 1) (by omega) (by omega), daysFromCivil_closed y m _ y' mp hy' hmp, hs]
    omega

theorem daysInMonth_ge (y : Int) (m : Nat) : 28 ≤ daysInMonth y m := by
  have := daysInMonth_cases y m; omega

def Reached (z : Int) : Prop := ∃ (y : Int) (m d : Nat), validDate y m d = true ∧ daysFromCivil y m (d : Int) = z

theorem reached_succ (z : Int) (ih : Reached z) : Reached (z + 1) := by
  obtain ⟨y, m, d, hv, rfl⟩ := ih
  obtain ⟨hm, hd⟩ := (validDate_iff y m d).mp hv
  by_cases hlast : d = daysInMonth y m
  · subst hlast
    exact ⟨_, _, 1, (validDate_iff ..).mpr ⟨by split <;> omega, Nat.le_refl 1, Nat.le_trans (by decide) (daysInMonth_ge _ _)⟩, next_month y m hm⟩
  · exact ⟨y, m, d + 1, (validDate_iff ..).mpr ⟨hm, by omega⟩, daysFromCivil_add_day y m d 1⟩

theorem reached_add (z : Int) (h : Reached z) : ∀ n : Nat, Reached (z + n)
  | 0 => by simpa using h
  | n + 1 => by
    have := reached_succ _ (reached_add z h n)
    rwa [Int.add_assoc] at this

/-- every day number is the day number of a valid date: count up from the 1 March that opens its 400-year era -/
theorem daysFromCivil_surj (z : Int) : Reached z := by
  have h0 (era : Int) : Reached (era * 146097 - 719468) :=
    ⟨era * 400, 3, 1, rfl, by rw [daysFromCivil_closed (era * 400) 3 _ _ 0 rfl rfl]; omega⟩
  have := reached_add _ (h0 ((z + 719468) / 146097)) ((z + 719468) % 146097).toNat
  rwa [show (z + 719468) / 146097 * 146097 - 719468 + (((z + 719468) % 146097).toNat : Int) = z by omega] at this

/-- **the other half of the calendar law**: the civil date of every day number is a valid date, and its day
    number is that day number -/
theorem daysFromCivil_civilFromDays (z : Int) :
    validDate (civilFromDays z).1 (civilFromDays z).2.1 (civilFromDays z).2.2 = true ∧
    daysFromCivil (civilFromDays z).1 (civilFromDays z).2.1 ((civilFromDays z).2.2 : Int) = z := by
  obtain ⟨y, m, d, hv, rfl⟩ := daysFromCivil_surj z
  rw [civilFromDays_daysFromCivil y m d hv]
  exact ⟨hv, rfl⟩

theorem wallOf_valid (t off : Int) :
    let w := wallOf t off
    validDate w.year w.month w.day = true ∧ w.hour < 24 ∧ w.minute < 60 ∧ w.second < 60 := by
  refine ⟨(daysFromCivil_civilFromDays ((t + off) / 86400)).1, ?_, ?_, ?_⟩
  · show ((t + off) % 86400).toNat / 3600 < 24; omega
  · show ((t + off) % 86400).toNat / 60 % 60 < 60; omega
  · show ((t + off) % 86400).toNat % 60 < 60; omega

theorem goDate_wallOf (t : Int) :
    let w := wallOf t 0
    validDate w.year w.month w.day = true ∧ w.hour < 24 ∧ w.minute < 60 ∧ w.second < 60 ∧
    goDate w.year w.month w.day w.hour w.minute w.second 0 = t := by
  intro w
  obtain ⟨hv, hh, hmi, hs⟩ := wallOf_valid t 0
  refine ⟨hv, hh, hmi, hs, ?_⟩
  have hd : daysFromCivil w.year w.month w.day = (t + 0) / 86400 := (daysFromCivil_civilFromDays _).2
  rw [goDate_eq _ _ _ _ _ _ _ ((validDate_iff ..).mp hv).1, hd]
  show (t + 0) / 86400 * 86400 + (((t + 0) % 86400).toNat / 3600 : Nat) * 3600 + (((t + 0) % 86400).toNat / 60 % 60 : Nat) * 60 +
    (((t + 0) % 86400).toNat % 60 : Nat) - 0 = t
  omega

theorem goDate_normal (y m d : Int) (h mi s : Nat) (off : Int) :
    goDate y m d h mi s off = goDate (y + (m - 1) / 12) ((m - 1) % 12 + 1) d h mi s off := by
  have e : (m - 1) % 12 / 12 = 0 := by omega
  simp only [goDate, Int.add_sub_cancel, Int.emod_emod, e, Int.add_zero]

/-- a duration is calendar-added whenever the day reached exists in the month reached (in gopki's terms: `C04_duration_is_calendar_addition`) -/
theorem addDate_calendar (t0 off : Int) (y mo d : Nat) :
    let w := wallOf t0 off
    let Y' : Int := w.year + y + ((w.month : Int) + mo - 1) / 12
    let M' : Nat := (((w.month : Int) + mo - 1) % 12).toNat + 1
    w.day + d ≤ daysInMonth Y' M' →
    wallOf (addDate t0 off y mo d) off = ⟨Y', M', w.day + d, w.hour, w.minute, w.second⟩ := by
  intro w Y' M' hday
  obtain ⟨hv, hh, hmi, hs⟩ : validDate w.year w.month w.day = true ∧ w.hour < 24 ∧ w.minute < 60 ∧ w.second < 60 :=
    wallOf_valid t0 off
  obtain ⟨_, hd1, _⟩ := (validDate_iff ..).mp hv
  have hM : (M' : Int) = ((w.month : Int) + mo - 1) % 12 + 1 := by simp only [M']; omega
  have hvalid : validDate Y' M' (w.day + d) = true := (validDate_iff ..).mpr ⟨by omega, by omega, hday⟩
  -- `addDate` is `goDate` of the sums; normalised, that is the instant whose wall clock `wallOf_goDate` gives
  rw [← wallOf_goDate Y' M' (w.day + d) w.hour w.minute w.second off hvalid hh hmi hs, hM]
  exact congrArg (wallOf · off) (goDate_normal ..)

end Calendar
