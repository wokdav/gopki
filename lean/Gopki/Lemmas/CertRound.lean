import Gopki.Lemmas.CertWf
import Gopki.Lemmas.StrLemmas
/-! **The specification reader returns the fields the model wrote** (`X509.decTbs ∘ Gen.tbsTlv`), for all inputs. -/
namespace CertRound
open Der Asn1 X509 Config CertWf

theorem takeOpt_hit {α : Type} (p : Tlv → Option α) (x : Tlv) (r : List Tlv) (a : α) (h : p x = some a) :
    takeOpt p (x :: r) = (some a, r) := by simp [takeOpt, h]

theorem takeOpt_miss {α : Type} (p : Tlv → Option α) (l : List Tlv) (h : ∀ x r, l = x :: r → p x = none) :
    takeOpt p l = (none, l) := by
  cases l with
  | nil => rfl
  | cons x r => simp [takeOpt, h x r rfl]

theorem mapM_length {α : Type} (f : α → Except String Tlv) : ∀ (xs : List α) (ys : List Tlv), xs.mapM f = .ok ys → ys.length = xs.length :=
  fun _ _ => List.length_of_mapM_ok

theorem decAlgId_algIdTlv (a : Gen.AlgId) (v : Tlv) (h : Gen.algIdTlv a = .ok v) (ha : OidOk a.oid) :
    decAlgId v = some ⟨a.oid, a.params⟩ := by
  obtain ⟨hv, rfl⟩ := Gen.algIdTlv_ok h
  have hd := OidLemmas.decOid_oidContent a.oid hv ha
  -- `decAlgId.eq_1`, `eq_2`: the reader's equations on a SEQUENCE of one member (no parameters) and of two; likewise for
  -- `decAtv` and `decExtension` below
  cases a.params
  · exact (decAlgId.eq_1 _).trans (congrArg (Option.map _) hd)
  · exact (decAlgId.eq_2 _ _).trans (congrArg (Option.map _) hd)

theorem decAtv_atvTlv (a : Atv) (v : Tlv) (h : Gen.atvTlv a = .ok v) (ha : OidOk a.oid) : decAtv v = some a := by
  obtain ⟨hv, rfl⟩ := Gen.atvTlv_ok h
  have hd := OidLemmas.decOid_oidContent a.oid hv ha
  obtain ⟨oid, value⟩ := a
  cases value with
  | str s =>
    have hs (t : UInt8) (ht : (t = 0x13 || t = 0x0c || t = 0x16) = true) : decString t s.toUTF8.toList = some (.str s) := by
      rw [decString, if_pos ht, StrLemmas.fromUTF8_toUTF8_list]; rfl
    simp only [tString]
    split
    · exact (decAtv.eq_1 _ _ _).trans (by rw [hd, hs 0x13 rfl]; rfl)
    · exact (decAtv.eq_1 _ _ _).trans (by rw [hd, hs 0x0c rfl]; rfl)
  | bytes b => exact (decAtv.eq_1 _ _ _).trans (by rw [hd]; rfl)

theorem decName_nameTlv (n : List Atv) (v : Tlv) (h : Gen.nameTlv n = .ok v) (hn : ∀ a ∈ n, OidOk a.oid) : decName v = some n := by
  obtain ⟨ys, hys, rfl⟩ := Gen.nameTlv_ok h
  simpa [tSeq, decName] using List.mapM_option_of_mapM_ok decAtv id hys fun a ha y hy => decAtv_atvTlv a y hy (hn a ha)

def specExt (e : Cert.Ext) : X509.Extension := ⟨e.oid, e.critical, e.value⟩

theorem decExtension_extTlv (e : Cert.Ext) (v : Tlv) (h : Gen.extTlv e = .ok v) (he : OidOk e.oid) :
    decExtension v = some (specExt e) := by
  obtain ⟨hv, rfl⟩ := Gen.extTlv_ok h
  have hd := OidLemmas.decOid_oidContent e.oid hv he
  obtain ⟨oid, critical, value⟩ := e
  cases critical
  · exact (decExtension.eq_1 _ _).trans (congrArg (Option.map _) hd)
  · exact (decExtension.eq_2 _ _).trans (congrArg (Option.map _) hd)

/-- what the reader must return for a body `t` whose inner signature algorithm is `a` -/
structure Fields (t : Gen.Tbs) (a : Gen.AlgId) (r : X509.Tbs) : Prop where
  version : r.version = t.version
  serial : r.serialContent = intBytes t.serial ∧ decInt r.serialContent = some t.serial
  sigAlg : r.sigAlg.oid = a.oid ∧ r.sigAlg.params = a.params
  issuer : decName r.issuer = some t.issuer
  issuerTlv : Gen.nameTlv t.issuer = .ok r.issuer
  subjectTlv : Gen.nameTlv t.subject = .ok r.subject
  notBefore : r.notBefore = t.notBefore
  notAfter : r.notAfter = t.notAfter
  subject : decName r.subject = some t.subject
  spkiAlg : r.spkiAlg.oid = t.spki.alg.oid ∧ r.spkiAlg.params = t.spki.alg.params
  spkiBits : r.spkiBits = bitStringContent t.spki.bits.bytes t.spki.bits.bitLength
  issuerUid : r.issuerUid = t.issuerUid.map fun b => bitStringContent b.bytes b.bitLength
  subjectUid : r.subjectUid = t.subjectUid.map fun b => bitStringContent b.bytes b.bitLength
  extensions : r.extensions = t.exts.map specExt

theorem tImplicit1_bits (b : Bytes) (n : Nat) : tImplicit 1 (tBitString b n) = .prim 0x81 (bitStringContent b n) := rfl
theorem tImplicit2_bits (b : Bytes) (n : Nat) : tImplicit 2 (tBitString b n) = .prim 0x82 (bitStringContent b n) := rfl
theorem tExplicit3 (t : Tlv) : tExplicit 3 t = .cons 0xa3 [t] := rfl

/-- an optional unique id in front of `rest`, under a reader that takes exactly its identifier octet -/
theorem takeOpt_uid (p : Tlv → Option Bytes) (tag : Nat) (u : Option BitString) (rest : List Tlv)
    (hp : ∀ c, p (.prim (UInt8.ofNat (0x80 + tag)) c) = some c) (hr : ∀ x r, rest = x :: r → p x = none) :
    takeOpt p (Gen.uidTlv tag u ++ rest) = (u.map fun b => bitStringContent b.bytes b.bitLength, rest) := by
  cases u with
  | none => exact takeOpt_miss p rest hr
  | some b => exact takeOpt_hit p _ rest _ (hp _)

/-- the tail after the public key: unique ids and the extension block, as `decTbs` reads it -/
theorem tail_read (iu su : Option BitString) (exts : List Tlv) (es : List X509.Extension) (hes : exts.mapM decExtension = some es) :
    let r2 := Gen.uidTlv 1 iu ++ (Gen.uidTlv 2 su ++ (if exts.isEmpty then [] else [tExplicit 3 (tSeq exts)]))
    let r3 := takeOpt (fun | .prim 0x81 b => some b | _ => none) r2
    let r4 := takeOpt (fun | .prim 0x82 b => some b | _ => none) r3.2
    r3.1 = iu.map (fun b => bitStringContent b.bytes b.bitLength) ∧ r4.1 = su.map (fun b => bitStringContent b.bytes b.bitLength) ∧
    (match r4.2 with
      | [] => some []
      | [.cons 0xa3 [.cons 0x30 es']] => es'.mapM decExtension
      | _ => none) = some es := by
  dsimp only
  rewrite [takeOpt_uid _ 1 iu _ (fun _ => rfl) (by intro x r h; cases su <;> cases exts <;> cases h <;> rfl),
    takeOpt_uid _ 2 su _ (fun _ => rfl) (by intro x r h; cases exts <;> cases h; rfl)]
  cases exts <;> exact ⟨rfl, rfl, hes⟩

/-- an OPTIONAL member `x` in front of `rest`, under a reader that takes `x` and nothing `rest` may begin with
    (`X509.takeOpt` is `SpecExt.takeIf` under another name; for that name the fact is `SpecExt.takeIf_opt`) -/
theorem takeOpt_ite {α : Type} (p : Tlv → Option α) (c : Prop) [Decidable c] (x : Tlv) (a : α) (rest : List Tlv)
    (hp : p x = some a) (hr : ∀ y r, rest = y :: r → p y = none) :
    takeOpt p ((if c then [] else [x]) ++ rest) = (if c then none else some a, rest) := by
  split
  · exact takeOpt_miss p rest hr
  · exact takeOpt_hit p x rest a hp

/-- `decTbs` on the members `tbsTlv` writes, each member already read -/
theorem decTbs_members (version : Int) (serial : Bytes) (sa iss subj av : Tlv) (t1 t2 : UInt8) (c1 c2 bitsC : Bytes)
    (iu su : Option BitString) (exts : List Tlv) (es : List X509.Extension) (rsa rspki : X509.AlgId) (nb na : Int)
    (hsa : decAlgId sa = some rsa) (hspki : decAlgId av = some rspki) (hnb : decTime t1 c1 = some nb) (hna : decTime t2 c2 = some na)
    (hes : exts.mapM decExtension = some es) (v : Tlv)
    (hvv : v = .cons 0x30 ((if version = 0 then [] else [tExplicit 0 (tInt version)]) ++
          .prim 0x02 serial :: sa :: iss :: .cons 0x30 [.prim t1 c1, .prim t2 c2] :: subj :: .cons 0x30 [av, .prim 0x03 bitsC] ::
          (Gen.uidTlv 1 iu ++ (Gen.uidTlv 2 su ++ (if exts.isEmpty then [] else [.cons 0xa3 [.cons 0x30 exts]]))))) :
    decTbs v = some ⟨v, version, serial, rsa, iss, nb, na, t1, t2, subj, rspki, bitsC,
      iu.map fun b => bitStringContent b.bytes b.bitLength, su.map fun b => bitStringContent b.bytes b.bitLength, es⟩ := by
  have hver : (if version = 0 then none else some version).getD 0 = version := by split; exacts [(‹version = 0›).symm, rfl]
  subst hvv
  -- `rewrite` reaches a `takeOpt` only once the `match` above it has been resolved, so that its argument is no bound variable
  rewrite [decTbs, takeOpt_ite _ _ _ version _ (NegInt.decInt_intBytes version) (fun y r h => by cases h; rfl)]
  simp only []
  -- side conditions: whatever stands behind a unique id (the other one, the `[3]` block) has another identifier octet
  rewrite [takeOpt_uid _ 1 iu _ (fun _ => rfl) (by intro x r h; cases su <;> cases exts <;> cases h <;> rfl),
    takeOpt_uid _ 2 su _ (fun _ => rfl) (by intro x r h; cases exts <;> cases h; rfl), hsa, hspki, hnb, hna, hver]
  -- the extension block is absent for an empty list, which the reader returns as the empty list
  cases exts with
  | nil => cases (show some [] = some es from hes); rfl
  | cons e exts => exact congrArg (Option.bind · _) hes

/-- **round trip of the to-be-signed certificate**: whatever body the model encodes, the specification reader
    (written from RFC 5280, independent of the encoder) returns exactly the fields that went in -/
theorem decTbs_tbsTlv (t : Gen.Tbs) (v : Tlv) (h : Gen.tbsTlv t = .ok v) (ht : TbsOk t) :
    ∃ r a, t.sigAlg = some a ∧ decTbs v = some r ∧ r.raw = v ∧ Fields t a r := by
  obtain ⟨a, ha, sa, hsa, exts, hexts, iss, hiss, nb, hnb, na, hna, subj, hsubj, spki, hspki, rfl⟩ := Gen.tbsTlv_ok h
  have hrsa := decAlgId_algIdTlv a sa hsa (ht.sigAlg a ha).1
  obtain ⟨av, hav, rfl⟩ := Gen.spkiTlv_ok hspki
  have hrspki := decAlgId_algIdTlv t.spki.alg av hav ht.spkiAlg.1
  obtain ⟨t1, c1, rfl, _, hnbDec⟩ := Gen.timeTlv_ok hnb
  obtain ⟨t2, c2, rfl, _, hnaDec⟩ := Gen.timeTlv_ok hna
  have hes := List.mapM_option_of_mapM_ok decExtension specExt hexts fun e he y hy => decExtension_extTlv e y hy (ht.exts e he)
  have hr := decTbs_members t.version (intBytes t.serial) sa iss subj av t1 t2 c1 c2
    (bitStringContent t.spki.bits.bytes t.spki.bits.bitLength) t.issuerUid t.subjectUid exts _ _ _ _ _ hrsa hrspki hnbDec hnaDec hes _ rfl
  exact ⟨_, a, ha, hr, rfl,
    { version := rfl, serial := ⟨rfl, NegInt.decInt_intBytes _⟩, sigAlg := ⟨rfl, rfl⟩,
      issuer := decName_nameTlv _ _ hiss ht.issuer, issuerTlv := hiss, subjectTlv := hsubj, notBefore := rfl, notAfter := rfl,
      subject := decName_nameTlv _ _ hsubj ht.subject, spkiAlg := ⟨rfl, rfl⟩, spkiBits := rfl,
      issuerUid := rfl, subjectUid := rfl, extensions := rfl }⟩

theorem decCertificate_certTlv (t : Gen.Tbs) (tv : Tlv) (outer : Gen.AlgId) (sig : BitString) (v : Tlv)
    (htbs : Gen.tbsTlv t = .ok tv) (ht : TbsOk t) (ho : OidOk outer.oid) (h : Gen.certTlv ⟨tv, outer, sig⟩ = .ok v) :
    ∃ c a, t.sigAlg = some a ∧ decCertificate v = some c ∧ Fields t a c.tbs ∧ c.tbs.raw = tv ∧
      c.sigAlg.oid = outer.oid ∧ c.sigAlg.params = outer.params ∧ c.signature = bitStringContent sig.bytes sig.bitLength := by
  obtain ⟨r, a, hsa, hr, hraw, hf⟩ := decTbs_tbsTlv t tv htbs ht
  obtain ⟨av, hav, rfl⟩ := Gen.certTlv_ok h
  exact ⟨⟨r, _, _⟩, a, hsa, (decCertificate.eq_1 _ _ _).trans (by rw [hr, decAlgId_algIdTlv outer av hav ho]; rfl), hf, hraw, rfl, rfl, rfl⟩

end CertRound
