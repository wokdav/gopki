import Gopki.Abs.Conv2
/-! C12 / C15: a configuration-independent invariant that every operation
    (configuration edits, artifact deletion / corruption / replacement, runs of any strategy stopped
    anywhere) preserves, and that implies the precondition of `run_converges`. -/
namespace Conv

-- `iov h`: the issuer named in the configuration whose hash view is `h` (the issuer alias is part of what is hashed)
variable (iov : Nat → Option Nat)

structure SInv (s : St) : Prop where
  coherent : ∀ a f ce k, s.pem a = some f → f.cert = some ce → f.key = some k → ce.subjKey = k
  reflect : ∀ a f h ce, s.pem a = some f → f.hash = some h → f.cert = some ce → ce.view = h
  clockGt : ∀ a f, s.pem a = some f → f.mtime < s.clock
  clockPos : 0 < s.clock
  /-- a complete gopki-written file chains to the issuer named in its own hash view, unless that
      issuer's file is newer or gone -/
  chainS : ∀ a f h ce k, s.pem a = some f → f.hash = some h → f.cert = some ce → f.key = some k →
    match iov h with
    | none => ce.signer = ce.subjKey ∧ ce.issuerDN = ce.subjDN
    | some i => (∃ fi ci, s.pem i = some fi ∧ fi.cert = some ci ∧ ce.signer = ci.subjKey ∧ ce.issuerDN = ci.subjDN)
                ∨ mtimeOf s a < mtimeOf s i ∨ s.pem i = none

def CfgLaw (s : St) : Prop := ∀ a c, s.cfg a = some c → iov c.view = c.issuer

theorem sinv_inv {s : St} (h : SInv iov s) (hlaw : CfgLaw iov s)
    (hdef : ∀ a c i, s.cfg a = some c → c.issuer = some i → ∃ ci, s.cfg i = some ci) : Inv' s := by
  refine ⟨h.coherent, h.reflect, ?_, h.clockGt, h.clockPos⟩
  -- whatever keeps `chainS` from giving `Good` is a reason: no key, a stale view, a newer issuer file, or none
  intro a c f hh ce hc hpem hhash hcert
  cases hk : f.key with
  | none => exact .inr (.self hc (.inl ((missing_iff hpem).mpr (.inr hk))))
  | some k =>
    by_cases hv : hh = c.view
    · subst hv
      have := h.chainS a f c.view ce k hpem hhash hcert hk
      rw [hlaw a c hc] at this
      cases hi : c.issuer with
      | none => exact .inl ((good_root hi).mpr (by simpa only [hi] using this))
      | some i =>
        simp only [hi] at this
        rcases this with g | g | g
        · exact .inl ((good_sub hi).mpr g)
        · exact .inr (.self hc (.inr (.inr (issuerNewer_iff.mpr ⟨i, hi, g⟩))))
        · obtain ⟨ci, hci⟩ := hdef a c i hc hi
          exact .inr (.parent hc hi (.self hci (.inl (missing_of_none g))))
    · exact .inr (.self hc (.inr (.inl ((changed_iff hpem).mpr ⟨hh, hhash, hv⟩))))

variable {iov} in
/-- the shape every operation on artifacts has: one file `a` is replaced (or removed) at the current time and the
    clock advances.  The invariant survives if the new file, when complete, is coherent, reflects its hash view and
    chains to the issuer that view names; a file that names `a` as its issuer now sees a newer file, or none. -/
theorem SInv.write {s s' : St} {a : Nat} (h : SInv iov s)
    (hframe : ∀ b, b ≠ a → s'.pem b = s.pem b) (hclock : s'.clock = s.clock + 1)
    (hnew : ∀ f, s'.pem a = some f → f.mtime = s.clock ∧
      (∀ ce k, f.cert = some ce → f.key = some k → ce.subjKey = k) ∧
      (∀ hh ce, f.hash = some hh → f.cert = some ce → ce.view = hh) ∧
      (∀ hh ce k, f.hash = some hh → f.cert = some ce → f.key = some k →
        (iov hh = none → ce.signer = ce.subjKey ∧ ce.issuerDN = ce.subjDN) ∧
        (∀ i, iov hh = some i → ∃ fi ci, s'.pem i = some fi ∧ fi.cert = some ci ∧
          ce.signer = ci.subjKey ∧ ce.issuerDN = ci.subjDN))) :
    SInv iov s' := by
  have hold : ∀ {b f}, b ≠ a → s'.pem b = some f → s.pem b = some f := fun hb hf => hframe _ hb ▸ hf
  refine ⟨?_, ?_, ?_, hclock ▸ Nat.succ_pos _, ?_⟩
  · intro b f ce k hf
    by_cases hb : b = a
    · exact (hnew f (hb ▸ hf)).2.1 ce k
    · exact h.coherent b f ce k (hold hb hf)
  · intro b f hh ce hf
    by_cases hb : b = a
    · exact (hnew f (hb ▸ hf)).2.2.1 hh ce
    · exact h.reflect b f hh ce (hold hb hf)
  · intro b f hf
    by_cases hb : b = a
    · rw [(hnew f (hb ▸ hf)).1, hclock]; exact Nat.lt_succ_self _
    · exact hclock ▸ Nat.lt_succ_of_lt (h.clockGt b f (hold hb hf))
  · intro b f hh ce k hf hhash hc hk
    by_cases hb : b = a
    · have := (hnew f (hb ▸ hf)).2.2.2 hh ce k hhash hc hk
      cases hio : iov hh with
      | none => exact this.1 hio
      | some i => exact Or.inl (this.2 i hio)
    · have hf0 := hold hb hf
      have := h.chainS b f hh ce k hf0 hhash hc hk
      cases hio : iov hh with
      | none => simpa only [hio] using this
      | some i =>
        simp only [hio] at this ⊢
        by_cases hia : i = a
        · subst hia
          cases hpi : s'.pem i with
          | none => exact Or.inr (Or.inr rfl)
          | some fi =>
            refine Or.inr (Or.inl ?_)
            rw [mtimeOf_some hf, mtimeOf_some hpi, (hnew fi hpi).1]
            exact h.clockGt b f hf0
        · rw [mtimeOf_congr (hframe b hb), mtimeOf_congr (hframe i hia), hframe i hia]
          exact this

variable {iov} in
/-- one generated file: `SInv.write` with the file `install` writes -/
theorem generate_sinv {s s' : St} {a : Nat} {c : Cfg} (h : SInv iov s) (hg : generate s a c = some s')
    (hlaw : iov c.view = c.issuer) (hia : c.issuer ≠ some a) : SInv iov s' := by
  obtain ⟨iss, rfl, hgood⟩ := generate_spec hg h.coherent hia
  refine h.write (a := a) (fun b hb => install_pem_ne hb) rfl ?_
  intro f hf
  rw [install_pem_self] at hf; cases hf
  refine ⟨rfl, ?_, ?_, ?_⟩
  · intro ce k hce hk; cases hce; cases hk; exact newCert_subjKey
  · intro hh ce hhh hce; cases hhh; cases hce; exact newCert_view
  · intro hh ce k hhh hce _; cases hhh; cases hce
    rw [hlaw]
    exact ⟨fun hi => (good_root hi).mp hgood, fun i hi => (good_sub hi).mp hgood⟩

variable {iov} in
theorem gstep_sinv {s0 : St} {R : Nat → Cfg → Bool} {acc : Acc} {a : Nat} (hlaw : CfgLaw iov s0)
    (hne : ∀ c, s0.cfg a = some c → c.issuer ≠ some a) (h : SInv iov acc.cur) :
    SInv iov (gstep s0 R acc a).cur := by
  -- only the branch in which `generate` succeeds changes `cur`
  unfold gstep
  split
  · exact h
  · rename_i c hc
    split
    · exact h
    · split
      · split
        · rename_i cur' hg; exact generate_sinv h hg (hlaw a c hc) (hne c hc)
        · exact h
      · exact h

/-- a run over any list of entities, in any order: of the forest only "no entity is its own issuer" is needed -/
theorem grun_sinv_of_issuer_ne {s0 : St} (R : Nat → Cfg → Bool) (budget : Option Nat) (order : List Nat)
    (h : SInv iov s0) (hlaw : CfgLaw iov s0) (hne : ∀ a c, s0.cfg a = some c → c.issuer ≠ some a) :
    SInv iov (grun s0 R budget order).cur :=
  List.foldlRecOn (motive := fun acc => SInv iov acc.cur) order (gstep s0 R) h
    fun _ hacc a _ => gstep_sinv hlaw (hne a) hacc

/-- any run — any strategy `R`, stopped after any number of writes — preserves the invariant -/
theorem grun_sinv (s0 : St) (R : Nat → Cfg → Bool) (budget : Option Nat) (order : List Nat)
    (h : SInv iov s0) (hlaw : CfgLaw iov s0) (hord : OrderOk s0 order) :
    SInv iov (grun s0 R budget order).cur :=
  grun_sinv_of_issuer_ne iov R budget order h hlaw fun _ _ hc => hord.issuer_ne hc

/-- any edit, addition or removal of configuration or profile files -/
def opCfg (s : St) (cfg' : Nat → Option Cfg) : St := { s with cfg := cfg' }

theorem opCfg_sinv {s : St} (cfg') (h : SInv iov s) : SInv iov (opCfg s cfg') :=
  ⟨h.coherent, h.reflect, h.clockGt, h.clockPos, h.chainS⟩

/-- delete an artifact -/
def opDelete (s : St) (a : Nat) : St :=
  { s with pem := fun b => if b = a then none else s.pem b, clock := s.clock + 1 }

/-- overwrite an artifact with `f'` at the current time: truncation to a proper prefix and key
    stripping give `f'.key = none` with hash/cert taken from the old file; replacement gives a
    coherent file without hash line -/
def opWrite (s : St) (a : Nat) (hash : Option Nat) (cert : Option Cert) (key : Option Nat) : St :=
  { s with pem := fun b => if b = a then some ⟨hash, cert, key, s.clock⟩ else s.pem b, clock := s.clock + 1 }

theorem opDelete_sinv {s : St} (a : Nat) (h : SInv iov s) : SInv iov (opDelete s a) :=
  h.write (a := a) (fun _ hb => if_neg hb) rfl fun f hf => by simp [opDelete] at hf

theorem opWrite_sinv {s : St} (a : Nat) (hash : Option Nat) (cert : Option Cert) (key : Option Nat)
    (h : SInv iov s)
    (hcoh : ∀ ce k, cert = some ce → key = some k → ce.subjKey = k)
    (hrefl : ∀ hh ce, hash = some hh → cert = some ce → ce.view = hh)
    (hbroken : hash = none ∨ cert = none ∨ key = none) :
    SInv iov (opWrite s a hash cert key) := by
  refine h.write (a := a) (fun _ hb => if_neg hb) rfl fun f hf => ?_
  have : f = ⟨hash, cert, key, s.clock⟩ := by simpa [opWrite] using hf.symm
  subst this
  refine ⟨rfl, hcoh, hrefl, fun hh ce k h1 h2 h3 => ?_⟩
  -- a file that lacks a block is not bound by the chain clause
  rcases hbroken with rfl | rfl | rfl <;> contradiction

/-- every state a user and gopki can produce together, from an empty directory -/
inductive Reach : St → Prop
  | init (cfg) : Reach ⟨cfg, fun _ => none, 1, 0⟩
  | cfg {s} (cfg') : Reach s → Reach (opCfg s cfg')
  | delete {s} (a) : Reach s → Reach (opDelete s a)
  | write {s} (a hash cert key) : Reach s →
      (∀ ce k, cert = some ce → key = some k → ce.subjKey = k) →
      (∀ hh ce, hash = some hh → cert = some ce → ce.view = hh) →
      (hash = none ∨ cert = none ∨ key = none) → Reach (opWrite s a hash cert key)
  | run {s} (R budget order) : Reach s → CfgLaw iov s → OrderOk s order → Reach (grun s R budget order).cur

theorem reach_sinv {s : St} (hr : Reach iov s) : SInv iov s := by
  induction hr with
  | init cfg => exact ⟨fun _ _ _ _ h => (nomatch h), fun _ _ _ _ h => (nomatch h), fun _ _ h => (nomatch h), Nat.one_pos,
      fun _ _ _ _ _ h => (nomatch h)⟩
  | cfg cfg' _ ih => exact opCfg_sinv iov cfg' ih
  | delete a _ ih => exact opDelete_sinv iov a ih
  | write a hash cert key _ h1 h2 h3 ih => exact opWrite_sinv iov a hash cert key ih h1 h2 h3
  | run R budget order _ hlaw hord ih => exact grun_sinv iov _ R budget order ih hlaw hord

/-- **C12 + C15 (abstract level).** After *any* history of configuration edits, artifact deletions,
    corruptions, replacements and runs with any flags interrupted anywhere, a default run over a
    consistent forest succeeds, every entity ends with certificate and key, and every certificate
    carrying a hash line reflects the current configuration and chains to its issuer's current
    certificate. -/
theorem converge_after_any_history {s : St} (hr : Reach iov s) (hlaw : CfgLaw iov s)
    (order : List Nat) (hord : OrderOk s order) :
    ∃ s' planned, run s order = some (s', planned) ∧
      ∀ a c, s.cfg a = some c →
        ∃ f ce k, s'.pem a = some f ∧ f.cert = some ce ∧ f.key = some k ∧
          (∀ h, f.hash = some h → h = c.view ∧ ce.view = c.view ∧ Good s' c ce) := by
  have hinv := (sinv_inv iov (reach_sinv iov hr) hlaw hord.issuerDefined)
  obtain ⟨s', planned, h1, _, h3⟩ := run_converges s order hinv hord
  exact ⟨s', planned, h1, h3⟩

end Conv
