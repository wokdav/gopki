import Gopki.Abs.Conv
import Gopki.Base.ListAux
/-! The plan of a run as a list, computed apart from the state: `planList`, and that `run` plans exactly it. -/
namespace Conv

/-- the planned list of a run, as a plain recursion over the queue (no state threading) -/
def planList (s0 : St) : List Nat → List Nat → List Nat
  | [], acc => acc
  | a :: rest, acc =>
    match s0.cfg a with
    | none => planList s0 rest acc
    | some c => if parentPlanned c acc ∨ localReason s0 a c then planList s0 rest (acc ++ [a]) else planList s0 rest acc

/-- one successful step moves the plan as `planList` does: the decision never looks at the evolving state -/
theorem planList_cons_of_step {s0 cur cur' : St} {planned planned' : List Nat} {a : Nat}
    (hs : step s0 (some (cur, planned)) a = some (cur', planned')) (rest : List Nat) :
    planList s0 (a :: rest) planned = planList s0 rest planned' := by
  unfold step at hs
  cases hc : s0.cfg a <;> simp only [hc] at hs <;> simp only [planList, hc]
  · cases hs; rfl
  · split at hs
    · rw [if_pos ‹_›]; split at hs <;> cases hs; rfl
    · cases hs; rw [if_neg ‹_›]

theorem foldl_step_planned (s0 : St) : ∀ (order : List Nat) (cur : St) (planned : List Nat) (st : St) (out : List Nat),
    order.foldl (step s0) (some (cur, planned)) = some (st, out) → out = planList s0 order planned := by
  intro order
  induction order with
  | nil => intro cur planned st out h; cases h; rfl
  | cons a rest ih =>
    intro cur planned st out h
    rw [List.foldl_cons] at h
    cases hs : step s0 (some (cur, planned)) a with
    | none => rw [hs, List.foldl_fixed (fun _ => rfl)] at h; cases h
    | some r =>
      rw [hs] at h
      rw [planList_cons_of_step hs]; exact ih r.1 r.2 st out h

theorem run_planned (s0 : St) (order : List Nat) (st : St) (out : List Nat) (h : run s0 order = some (st, out)) :
    out = planList s0 order [] := foldl_step_planned s0 order s0 [] st out h

end Conv
