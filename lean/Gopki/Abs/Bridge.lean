import Gopki.Model.Db
import Gopki.Abs.Conv
/-! Bridge between the detailed model of `generator/db` (`Gopki.Model.Db`) and the abstract file-level machine
    (`Gopki.Abs.Conv`) about which the convergence theorems are proved: under the default strategy the decision
    `needsUpdate` of the detailed model is exactly the abstract machine's `localReason` on the abstraction of the
    entity and of its issuer.  (The driver builds the same abstraction for every default run and executes
    `Conv.run` on it; this theorem is the per-entity reason why the two must agree.) -/
namespace Bridge
open Der

/-- the default strategy of `gopki sign`: generate-missing and generate-changed -/
def defaultStrategy : Db.Strategy := ⟨true, false, false, true, false⟩

/-- abstraction of one entity's artifact file; `vid` interns hash values as naturals -/
def absPem (vid : Bytes → Nat) (e : Db.Entity) : Option Conv.Pem :=
  if e.meta_.lastBuild = 0 then none
  else some ⟨e.meta_.lastConfigHash.map vid, e.art.cert.map (fun c => ⟨c.subjectKey, 0, 0, 0, 0⟩), e.art.key.map (·.id), e.meta_.lastBuild.toNat⟩

/-- what `Open` guarantees of an entity without a certificate request: times are not negative, and an entity
    without an artifact file (zero build time) has neither certificate nor stored hash -/
structure WfEnt (e : Db.Entity) : Prop where
  nonneg : 0 ≤ e.meta_.lastBuild
  nofile : e.meta_.lastBuild = 0 → e.art.cert = none ∧ e.meta_.lastConfigHash = none
  noreq : e.art.request = none

/-- what the abstract machine can observe of an abstracted artifact file: whether it is complete, whether its hash line
    differs from a view, its time.  An entity without a file has neither certificate nor stored hash, so the absent
    file is observed like an empty one written at time zero -/
theorem abs_obs {vid : Bytes → Nat} {st : Conv.St} {a : Nat} {e : Db.Entity} (hw : WfEnt e) (hp : st.pem a = absPem vid e) :
    (Conv.missing st a ↔ e.art.cert = none ∨ e.art.key = none) ∧
    (∀ c, Conv.changed st a c ↔ ∃ h, e.meta_.lastConfigHash = some h ∧ vid h ≠ c.view) ∧
    (Conv.mtimeOf st a : Int) = e.meta_.lastBuild := by
  unfold absPem at hp
  by_cases h0 : e.meta_.lastBuild = 0
  · rw [if_pos h0] at hp
    obtain ⟨hc, hh⟩ := hw.nofile h0
    simp [Conv.missing, Conv.changed, Conv.mtimeOf, hp, hc, hh, h0]
  · rw [if_neg h0] at hp
    refine ⟨?_, fun c => ?_, ?_⟩
    · simp [Conv.missing_iff hp]
    · rw [Conv.changed_iff hp]; cases e.meta_.lastConfigHash <;> simp
    · rw [Conv.mtimeOf_some hp]; exact Int.toNat_of_nonneg hw.nonneg

/-- `needsUpdate` under the default strategy, as a proposition -/
theorem needsUpdate_default (s : Db.State) (e : Db.Entity) (cfg : V1.CertificateContent) (hash : Bytes) (now : Int) :
    Db.needsUpdate s defaultStrategy e cfg hash now = true ↔
      ((∃ i, s.find cfg.issuer = some i ∧ e.meta_.lastBuild < i.meta_.lastBuild) ∨
       (e.art.cert = none ∨ (e.art.key = none ∧ e.art.request = none)) ∨
       (∃ h, e.meta_.lastConfigHash = some h ∧ h ≠ hash)) := by
  unfold Db.needsUpdate defaultStrategy
  simp only [Bool.false_eq_true, if_false, Bool.false_and, Bool.or_false, Bool.true_and, Db.Strategy.none_,
    Bool.or_true, Bool.not_true, Bool.not_false, Bool.or_eq_true, Bool.and_eq_true, Option.isNone_iff_eq_none]
  -- each of the two `match`es is its existential
  rw [or_assoc]
  refine or_congr ?_ (or_congr Iff.rfl ?_)
  · cases s.find cfg.issuer <;> simp
  · cases e.meta_.lastConfigHash <;> simp

/-- **per-entity refinement**: for an entity `e` (at index `a`) with effective configuration `cfg` whose hash is
    `hash`, an abstract state `st` that holds the abstractions of `e` and of its issuer, and an interning `vid` that
    separates the stored hash from the current one: `needsUpdate` under the default strategy holds exactly when the
    abstract machine has a local reason -/
theorem needsUpdate_default_iff_localReason
    (s : Db.State) (e : Db.Entity) (cfg : V1.CertificateContent) (hash : Bytes) (now : Int)
    (vid : Bytes → Nat) (st : Conv.St) (a : Nat) (c : Conv.Cfg)
    (hw : WfEnt e) (hp : st.pem a = absPem vid e) (hview : c.view = vid hash)
    (hinj : ∀ h, e.meta_.lastConfigHash = some h → (vid h = vid hash ↔ h = hash))
    (hiss : match s.find cfg.issuer with
            | some ie => ∃ i, c.issuer = some i ∧ WfEnt ie ∧ st.pem i = absPem vid ie
            | none => c.issuer = none) :
    Db.needsUpdate s defaultStrategy e cfg hash now = true ↔ Conv.localReason st a c := by
  obtain ⟨hm, hch, hmt⟩ := abs_obs hw hp
  rw [needsUpdate_default, Conv.localReason, hm, hch c, Conv.issuerNewer_iff]
  refine or_rotate.trans (or_congr ?_ (or_congr ?_ ?_))
  · simp only [hw.noreq, and_true]
  · exact exists_congr fun h => and_congr_right fun hh => hview ▸ not_congr (hinj h hh).symm
  · cases hf : s.find cfg.issuer with
    | none => rw [hf] at hiss; simp [hiss]
    | some ie =>
      rw [hf] at hiss
      obtain ⟨i, hci, hwi, hpi⟩ := hiss
      have hmi := (abs_obs hwi hpi).2.2
      simp only [hci, Option.some.injEq, exists_eq_left']
      omega

end Bridge
