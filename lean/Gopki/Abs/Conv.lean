/-! C12, core: one default run (`-m -c`) over an issuer forest, abstract file-level state.  `Inv`: what a run may assume of the
    files it finds; `K`: the loop invariant (`step_K`, `K.file`); `run_converges`: the postcondition, cited by C01 and C11 too. -/
namespace Conv

structure Cfg where
  issuer : Option Nat
  view : Nat          -- hash view of the effective configuration (contains issuer and subject)
  dn : Nat
deriving DecidableEq

structure Cert where
  subjKey : Nat
  signer : Nat
  issuerDN : Nat
  subjDN : Nat
  view : Nat
deriving DecidableEq

structure Pem where
  hash : Option Nat
  cert : Option Cert
  key : Option Nat
  mtime : Nat
deriving DecidableEq

structure St where
  cfg : Nat → Option Cfg
  pem : Nat → Option Pem
  clock : Nat
  nextKey : Nat

def mtimeOf (s : St) (a : Nat) : Nat := match s.pem a with | some f => f.mtime | none => 0

def missing (s : St) (a : Nat) : Prop :=
  match s.pem a with
  | none => True
  | some f => f.cert = none ∨ f.key = none

def changed (s : St) (a : Nat) (c : Cfg) : Prop :=
  match s.pem a with
  | some f => (match f.hash with | some h => h ≠ c.view | none => False)
  | none => False

def issuerNewer (s : St) (a : Nat) (c : Cfg) : Prop :=
  match c.issuer with
  | some i => mtimeOf s a < mtimeOf s i
  | none => False

/-- the reasons `needsUpdate` evaluates under the default strategy -/
def localReason (s : St) (a : Nat) (c : Cfg) : Prop := missing s a ∨ changed s a c ∨ issuerNewer s a c

instance (s a) : Decidable (missing s a) := by unfold missing; split <;> infer_instance
instance (s a c) : Decidable (changed s a c) := by
  unfold changed; split
  · split <;> infer_instance
  · infer_instance
instance (s a c) : Decidable (issuerNewer s a c) := by unfold issuerNewer; split <;> infer_instance
instance (s a c) : Decidable (localReason s a c) := by unfold localReason; infer_instance

def parentPlanned (c : Cfg) (planned : List Nat) : Prop :=
  match c.issuer with | some i => i ∈ planned | none => False
instance (c p) : Decidable (parentPlanned c p) := by unfold parentPlanned; split <;> infer_instance

/-- what a default run is obliged to regenerate: least fixed point of "own reason or issuer regenerated" -/
inductive Needs (s : St) : Nat → Prop
  | self {a c} : s.cfg a = some c → localReason s a c → Needs s a
  | parent {a c i} : s.cfg a = some c → c.issuer = some i → Needs s i → Needs s a

def keyFor (s : St) (a : Nat) : Nat :=
  (match s.pem a with | some f => f.key | none => none).getD s.nextKey

def newCert (s : St) (a : Nat) (c : Cfg) (iss : Option (Nat × Nat)) : Cert :=
  match iss with
  | none => ⟨keyFor s a, keyFor s a, c.dn, c.dn, c.view⟩                 -- self-signed
  | some (ki, idn) => ⟨keyFor s a, ki, idn, c.dn, c.view⟩

/-- write `<alias>.pem`: hash line, new certificate, reused or fresh key -/
def install (s : St) (a : Nat) (c : Cfg) (iss : Option (Nat × Nat)) : St :=
  { cfg := s.cfg
    pem := fun b => if b = a then some ⟨some c.view, some (newCert s a c iss), some (keyFor s a), s.clock⟩
                    else s.pem b
    clock := s.clock + 1
    nextKey := s.nextKey + 1 }

/-- GenerateArtifacts + PutBuildArtifact; `none` = the run fails (issuer has no certificate or no key) -/
def generate (s : St) (a : Nat) (c : Cfg) : Option St :=
  match c.issuer with
  | none => some (install s a c none)
  | some i =>
    match s.pem i with
    | some fi =>
      match fi.cert, fi.key with
      | some ci, some ki => some (install s a c (some (ki, ci.subjDN)))
      | _, _ => none
    | none => none

/-- plan and bulk update fused: decisions read the state `s0` the run started from -/
def step (s0 : St) (acc : Option (St × List Nat)) (a : Nat) : Option (St × List Nat) :=
  match acc with
  | none => none
  | some (cur, planned) =>
    match s0.cfg a with
    | none => some (cur, planned)
    | some c =>
      if parentPlanned c planned ∨ localReason s0 a c then
        match generate cur a c with
        | some cur' => some (cur', planned ++ [a])
        | none => none
      else some (cur, planned)

def run (s0 : St) (order : List Nat) : Option (St × List Nat) := order.foldl (step s0) (some (s0, []))

/-- the certificate of `a` chains to the certificate its issuer currently has -/
def Good (s : St) (c : Cfg) (ce : Cert) : Prop :=
  match c.issuer with
  | none => ce.signer = ce.subjKey ∧ ce.issuerDN = ce.subjDN
  | some i => ∃ fi ci, s.pem i = some fi ∧ fi.cert = some ci ∧ ce.signer = ci.subjKey ∧ ce.issuerDN = ci.subjDN

/-- what a run may assume of the files it finds.  The idea is in `chain`: a certificate with a hash line need not chain to its
    issuer's current one — it may be stale — as long as it is then due for regeneration (`Needs`). -/
structure Inv (s : St) : Prop where
  coherent : ∀ a f ce k, s.pem a = some f → f.cert = some ce → f.key = some k → ce.subjKey = k
  reflect : ∀ a f h ce, s.pem a = some f → f.hash = some h → f.cert = some ce → ce.view = h
  chain : ∀ a c f h ce, s.cfg a = some c → s.pem a = some f → f.hash = some h → f.cert = some ce →
            Good s c ce ∨ Needs s a
  clockGt : ∀ a f, s.pem a = some f → f.mtime < s.clock
  clockPos : 0 < s.clock

/-- topological order of the issuer forest — the kind of order the BFS of `Forest.bfs_main` delivers; a hypothesis here, not
    derived from it -/
structure OrderOk (s : St) (order : List Nat) : Prop where
  nodup : order.Nodup
  complete : ∀ a c, s.cfg a = some c → a ∈ order
  parentFirst : ∀ pre a post c i, order = pre ++ a :: post → s.cfg a = some c → c.issuer = some i → i ∈ pre
  issuerDefined : ∀ a c i, s.cfg a = some c → c.issuer = some i → ∃ ci, s.cfg i = some ci

/-- loop invariant of the fused plan/update fold -/
structure K (s0 : St) (done : List Nat) (cur : St) (planned : List Nat) : Prop where
  cfgEq : cur.cfg = s0.cfg
  sub : ∀ a ∈ planned, a ∈ done
  iff : ∀ a ∈ done, (a ∈ planned ↔ Needs s0 a)
  closed : ∀ b ∈ done, ∀ cb j, s0.cfg b = some cb → cb.issuer = some j → j ∈ done
  unch : ∀ a, a ∉ planned → cur.pem a = s0.pem a
  clockLe : s0.clock ≤ cur.clock
  curGt : ∀ a f, cur.pem a = some f → f.mtime < cur.clock
  gen : ∀ a ∈ planned, ∃ c f ce k, s0.cfg a = some c ∧ cur.pem a = some f ∧ f.hash = some c.view ∧
          f.cert = some ce ∧ f.key = some k ∧ ce.subjKey = k ∧ ce.view = c.view ∧ Good cur c ce ∧
          (∀ j, c.issuer = some j → mtimeOf cur j < f.mtime)

section
variable {s s' : St} {a b i : Nat} {c : Cfg} {iss : Option (Nat × Nat)} {f : Pem} {ce : Cert}

theorem missing_of_none (hf : s.pem a = none) : missing s a := by simp only [missing, hf]

theorem missing_iff (hf : s.pem a = some f) : missing s a ↔ f.cert = none ∨ f.key = none := by
  simp only [missing, hf]

theorem changed_iff (hf : s.pem a = some f) : changed s a c ↔ ∃ h, f.hash = some h ∧ h ≠ c.view := by
  simp only [changed, hf]; cases f.hash <;> simp

theorem issuerNewer_iff : issuerNewer s a c ↔ ∃ i, c.issuer = some i ∧ mtimeOf s a < mtimeOf s i := by
  unfold issuerNewer; cases c.issuer <;> simp

theorem good_root (hi : c.issuer = none) : Good s c ce ↔ ce.signer = ce.subjKey ∧ ce.issuerDN = ce.subjDN := by
  simp only [Good, hi]

theorem good_sub (hi : c.issuer = some i) : Good s c ce ↔
    ∃ fi ci, s.pem i = some fi ∧ fi.cert = some ci ∧ ce.signer = ci.subjKey ∧ ce.issuerDN = ci.subjDN := by
  simp only [Good, hi]

theorem install_pem_self : (install s a c iss).pem a =
    some ⟨some c.view, some (newCert s a c iss), some (keyFor s a), s.clock⟩ := if_pos rfl

theorem install_pem_ne (h : b ≠ a) : (install s a c iss).pem b = s.pem b := if_neg h

@[simp] theorem newCert_subjKey : (newCert s a c iss).subjKey = keyFor s a := by
  cases iss <;> rfl

@[simp] theorem newCert_view : (newCert s a c iss).view = c.view := by
  cases iss <;> rfl

theorem mtimeOf_congr (h : s'.pem b = s.pem b) : mtimeOf s' b = mtimeOf s b := by
  simp only [mtimeOf, h]

theorem mtimeOf_some {f : Pem} (h : s.pem b = some f) : mtimeOf s b = f.mtime := by
  simp only [mtimeOf, h]

theorem mtimeOf_lt_clock (hgt : ∀ a f, s.pem a = some f → f.mtime < s.clock) (hpos : 0 < s.clock) (b : Nat) :
    mtimeOf s b < s.clock := by
  unfold mtimeOf
  cases h : s.pem b with
  | none => exact hpos
  | some f => exact hgt b f h

/-- a successful `generate` is an `install` whose certificate chains to the issuer's file as it stands -/
theorem generate_spec (hg : generate s a c = some s')
    (hcoh : ∀ i f ce k, s.pem i = some f → f.cert = some ce → f.key = some k → ce.subjKey = k)
    (hia : c.issuer ≠ some a) :
    ∃ iss, s' = install s a c iss ∧ Good s' c (newCert s a c iss) := by
  unfold generate at hg
  cases hi : c.issuer with
  | none =>
    simp only [hi, Option.some.injEq] at hg
    exact ⟨none, hg.symm, (good_root hi).mpr ⟨rfl, rfl⟩⟩
  | some i =>
    simp only [hi] at hg
    split at hg
    · rename_i fi hpi
      split at hg
      · rename_i ci ki hci hki
        simp only [Option.some.injEq] at hg
        subst hg
        refine ⟨_, rfl, ?_⟩
        have hne : i ≠ a := fun h => hia (by rw [hi, h])
        exact (good_sub hi).mpr ⟨fi, ci, by rw [install_pem_ne hne, hpi], hci, (hcoh i fi ci ki hpi hci hki).symm, rfl⟩
      · cases hg
    · cases hg

theorem generate_isSome (h : ∀ i, c.issuer = some i → ∃ fi ci ki, s.pem i = some fi ∧ fi.cert = some ci ∧ fi.key = some ki) :
    ∃ s', generate s a c = some s' := by
  unfold generate
  cases hi : c.issuer with
  | none => exact ⟨_, rfl⟩
  | some i =>
    obtain ⟨fi, ci, ki, h1, h2, h3⟩ := h i hi
    exact ⟨install s a c (some (ki, ci.subjDN)), by simp only [h1, h2, h3]⟩
end

theorem not_missing {s : St} {a : Nat} (h : ¬ missing s a) :
    ∃ f ce k, s.pem a = some f ∧ f.cert = some ce ∧ f.key = some k := by
  cases hp : s.pem a with
  | none => exact absurd (missing_of_none hp) h
  | some f =>
    rw [missing_iff hp, not_or] at h
    obtain ⟨ce, hc⟩ := Option.ne_none_iff_exists'.mp h.1
    obtain ⟨k, hk⟩ := Option.ne_none_iff_exists'.mp h.2
    exact ⟨f, ce, k, rfl, hc, hk⟩

theorem good_transfer {s s' : St} {c : Cfg} {ce : Cert}
    (h : ∀ i, c.issuer = some i → s'.pem i = s.pem i) (hg : Good s c ce) : Good s' c ce := by
  cases hi : c.issuer with
  | none => exact (good_root hi).mpr ((good_root hi).mp hg)
  | some i => rw [good_sub hi, h i hi]; exact (good_sub hi).mp hg

theorem parentPlanned_iff {c : Cfg} {pl : List Nat} : parentPlanned c pl ↔ ∃ i, c.issuer = some i ∧ i ∈ pl := by
  unfold parentPlanned; cases c.issuer <;> simp

theorem needs_iff {s : St} {a : Nat} {c : Cfg} (hc : s.cfg a = some c) :
    Needs s a ↔ localReason s a c ∨ ∃ i, c.issuer = some i ∧ Needs s i := by
  constructor
  · intro h
    cases h with
    | self h1 h2 => rw [hc] at h1; cases h1; exact Or.inl h2
    | parent h1 h2 h3 => rw [hc] at h1; cases h1; exact Or.inr ⟨_, h2, h3⟩
  · rintro (h | ⟨i, hi, h⟩)
    · exact .self hc h
    · exact .parent hc hi h

theorem Needs.cfg {s : St} {a : Nat} (h : Needs s a) : ∃ c, s.cfg a = some c := by
  cases h <;> exact ⟨_, ‹_›⟩

theorem OrderOk.not_mem_pre {s : St} {order pre post : List Nat} {a : Nat} (hord : OrderOk s order)
    (hsplit : order = pre ++ a :: post) : a ∉ pre :=
  fun h => (List.nodup_append.mp (hsplit ▸ hord.nodup)).2.2 a h a List.mem_cons_self rfl

/-- no entity is its own issuer: the issuer comes strictly earlier in the order -/
theorem OrderOk.issuer_ne {s : St} {order : List Nat} {a : Nat} {c : Cfg} (hord : OrderOk s order)
    (hc : s.cfg a = some c) : c.issuer ≠ some a := by
  obtain ⟨pre, post, hsplit⟩ := List.append_of_mem (hord.complete a c hc)
  exact fun hi => hord.not_mem_pre hsplit (hord.parentFirst pre a post c a hsplit hc hi)

section
variable {s0 cur : St} {done planned : List Nat} {a : Nat} {c : Cfg}

theorem K.coherent (hinv : Inv s0) (hK : K s0 done cur planned) :
    ∀ i f ce k, cur.pem i = some f → f.cert = some ce → f.key = some k → ce.subjKey = k := by
  intro i f ce k hf hc hk
  by_cases hp : i ∈ planned
  · obtain ⟨_, f', ce', k', _, h2, _, h4, h5, h6, _⟩ := hK.gen i hp
    rw [hf] at h2; cases h2; rw [hc] at h4; cases h4; rw [hk] at h5; cases h5; exact h6
  · exact hinv.coherent i f ce k (hK.unch i hp ▸ hf) hc hk

/-- at any point of the run, an entity already passed has certificate and key, a certificate with a hash line reflects
    the configuration and chains to the issuer's current file, and the file is not older than the issuer's: written by
    this run (`gen`), or left alone because neither it nor its issuer had a reason (`Inv.chain` with `¬ Needs`) -/
theorem K.file (hinv : Inv s0) (hK : K s0 done cur planned) (ha : a ∈ done) (hc : s0.cfg a = some c) :
    ∃ f ce k, cur.pem a = some f ∧ f.cert = some ce ∧ f.key = some k ∧
      (∀ h, f.hash = some h → h = c.view ∧ ce.view = c.view ∧ Good cur c ce) ∧
      ∀ i, c.issuer = some i → mtimeOf cur i ≤ f.mtime := by
  by_cases hp : a ∈ planned
  · obtain ⟨c', f, ce, k, h1, h2, h3, h4, h5, _, h7, h8, h9⟩ := hK.gen a hp
    rw [hc] at h1; cases h1
    exact ⟨f, ce, k, h2, h4, h5, fun h hh => by rw [h3] at hh; cases hh; exact ⟨rfl, h7, h8⟩,
      fun i hi => Nat.le_of_lt (h9 i hi)⟩
  · have hn : ¬ Needs s0 a := fun h => hp ((hK.iff a ha).mpr h)
    obtain ⟨⟨hmiss, hchg, hnew⟩, hpar⟩ : (¬ missing s0 a ∧ ¬ changed s0 a c ∧ ¬ issuerNewer s0 a c) ∧
        ¬ ∃ i, c.issuer = some i ∧ Needs s0 i := by simpa only [needs_iff hc, localReason, not_or] using hn
    obtain ⟨f, ce, k, hpem, hce, hk⟩ := not_missing hmiss
    -- the issuer was not regenerated either
    have hiss : ∀ i, c.issuer = some i → cur.pem i = s0.pem i := fun i hi =>
      hK.unch i fun hip => hpar ⟨i, hi, (hK.iff i (hK.sub i hip)).mp hip⟩
    refine ⟨f, ce, k, by rw [hK.unch a hp]; exact hpem, hce, hk, fun h hh => ?_, fun i hi => ?_⟩
    · have hhv : h = c.view := Classical.byContradiction fun x => hchg ((changed_iff hpem).mpr ⟨h, hh, x⟩)
      refine ⟨hhv, by rw [hinv.reflect a f h ce hpem hh hce, hhv], good_transfer hiss ?_⟩
      exact (hinv.chain a c f h ce hc hpem hh hce).resolve_right hn
    · rw [mtimeOf_congr (hiss i hi), ← mtimeOf_some hpem]
      exact Nat.le_of_not_lt fun hlt => hnew (issuerNewer_iff.mpr ⟨i, hi, hlt⟩)

/-- `done` grows by `a`; `planned'` is `planned`, with `a` added exactly if `a` needs regeneration -/
theorem K.snoc (hK : K s0 done cur planned) (ha : a ∉ done)
    (hcl : ∀ c j, s0.cfg a = some c → c.issuer = some j → j ∈ done) {cur' : St} {planned' : List Nat}
    (hmem : ∀ b, b ∈ planned' ↔ b ∈ planned ∨ (b = a ∧ Needs s0 a))
    (hcfg : cur'.cfg = s0.cfg) (hunch : ∀ b, b ∉ planned' → cur'.pem b = s0.pem b)
    (hclock : s0.clock ≤ cur'.clock) (hgt : ∀ b f, cur'.pem b = some f → f.mtime < cur'.clock)
    (hgen : ∀ b ∈ planned', ∃ c f ce k, s0.cfg b = some c ∧ cur'.pem b = some f ∧ f.hash = some c.view ∧
          f.cert = some ce ∧ f.key = some k ∧ ce.subjKey = k ∧ ce.view = c.view ∧ Good cur' c ce ∧
          (∀ j, c.issuer = some j → mtimeOf cur' j < f.mtime)) :
    K s0 (done ++ [a]) cur' planned' := by
  refine ⟨hcfg, ?_, ?_, ?_, hunch, hclock, hgt, hgen⟩
  · intro b hb
    rcases (hmem b).mp hb with h | ⟨rfl, _⟩
    · exact List.mem_append_left _ (hK.sub b h)
    · exact List.mem_append_right _ (List.mem_singleton_self b)
  · intro b hb
    rw [hmem b]
    rcases List.mem_append.mp hb with hb | hb
    · have hba : b ≠ a := fun h => ha (h ▸ hb)
      simp only [hba, false_and, or_false]; exact hK.iff b hb
    · obtain rfl := List.mem_singleton.mp hb
      have : b ∉ planned := fun h => ha (hK.sub b h)
      simp only [this, false_or, true_and]
  · intro b hb cb j hcb hj
    rcases List.mem_append.mp hb with hb | hb
    · exact List.mem_append_left _ (hK.closed b hb cb j hcb hj)
    · obtain rfl := List.mem_singleton.mp hb
      exact List.mem_append_left _ (hcl cb j hcb hj)

theorem step_K {order todo : List Nat} (hinv : Inv s0) (hord : OrderOk s0 order)
    (hsplit : order = done ++ a :: todo) (hK : K s0 done cur planned) :
    ∃ cur' planned', step s0 (some (cur, planned)) a = some (cur', planned') ∧ K s0 (done ++ [a]) cur' planned' := by
  have ha : a ∉ done := hord.not_mem_pre hsplit
  have hcl : ∀ c j, s0.cfg a = some c → c.issuer = some j → j ∈ done :=
    fun c j hc hj => hord.parentFirst done a todo c j hsplit hc hj
  have hskip : ¬ Needs s0 a → K s0 (done ++ [a]) cur planned := fun hn =>
    hK.snoc ha hcl (by simp [hn]) hK.cfgEq hK.unch hK.clockLe hK.curGt hK.gen
  cases hc : s0.cfg a with
  | none => exact ⟨cur, planned, by simp only [step, hc], hskip fun h => by simpa [hc] using h.cfg⟩
  | some c =>
    -- the decision of `step` is `Needs`: issuers come earlier, where `planned` is `Needs` already
    have hD : (parentPlanned c planned ∨ localReason s0 a c) ↔ Needs s0 a := by
      rw [needs_iff hc, parentPlanned_iff, or_comm]
      refine or_congr Iff.rfl (exists_congr fun i => and_congr_right fun hi => hK.iff i (hcl c i hc hi))
    by_cases hd : parentPlanned c planned ∨ localReason s0 a c
    · have hneeds := hD.mp hd
      obtain ⟨cur', hg⟩ := generate_isSome (s := cur) (a := a) (c := c) fun i hi => by
        obtain ⟨ci, hci⟩ := hord.issuerDefined a c i hc hi
        obtain ⟨f, ce, k, h1, h2, h3, _⟩ := hK.file hinv (hcl c i hc hi) hci
        exact ⟨f, ce, k, h1, h2, h3⟩
      refine ⟨cur', planned ++ [a], by simp only [step, hc, hd, if_true, hg], ?_⟩
      obtain ⟨iss, rfl, hgood⟩ := generate_spec hg (hK.coherent hinv) (hord.issuer_ne hc)
      have hne : ∀ {b}, b ∈ done → b ≠ a := fun hb h => ha (h ▸ hb)
      refine hK.snoc ha hcl (by simp [hneeds]) hK.cfgEq ?_ (Nat.le_succ_of_le hK.clockLe) ?_ ?_
      · intro b hb
        simp only [List.mem_append, List.mem_singleton, not_or] at hb
        rw [install_pem_ne hb.2, hK.unch b hb.1]
      · intro b fb hfb
        by_cases hba : b = a
        · subst hba; rw [install_pem_self] at hfb; cases hfb; exact Nat.lt_succ_self _
        · rw [install_pem_ne hba] at hfb; exact Nat.lt_succ_of_lt (hK.curGt b fb hfb)
      · intro b hb
        rcases List.mem_append.mp hb with hb | hb
        · -- an earlier file and its issuer's are not touched by this step
          have hbd := hK.sub b hb
          obtain ⟨cb, fb, ceb, kb, h1, h2, h3, h4, h5, h6, h7, h8, h9⟩ := hK.gen b hb
          have hj : ∀ j, cb.issuer = some j → (install cur a c iss).pem j = cur.pem j :=
            fun j hj => install_pem_ne (hne (hK.closed b hbd cb j h1 hj))
          exact ⟨cb, fb, ceb, kb, h1, by rw [install_pem_ne (hne hbd)]; exact h2, h3, h4, h5, h6, h7,
            good_transfer hj h8, fun j hj' => by rw [mtimeOf_congr (hj j hj')]; exact h9 j hj'⟩
        · obtain rfl := List.mem_singleton.mp hb
          refine ⟨c, _, _, _, hc, install_pem_self, rfl, rfl, rfl, newCert_subjKey, newCert_view, hgood, fun j hj => ?_⟩
          rw [mtimeOf_congr (install_pem_ne (hne (hcl c j hc hj)))]
          exact mtimeOf_lt_clock hK.curGt (Nat.lt_of_lt_of_le hinv.clockPos hK.clockLe) j
    · exact ⟨cur, planned, by simp only [step, hc, hd, if_false], hskip ((not_congr hD).mp hd)⟩

end

theorem fold_K (s0 : St) (order : List Nat) (hinv : Inv s0) (hord : OrderOk s0 order) :
    ∀ (todo done : List Nat) (cur : St) (planned : List Nat), order = done ++ todo →
      K s0 done cur planned →
      ∃ cur' planned', todo.foldl (step s0) (some (cur, planned)) = some (cur', planned') ∧
        K s0 order cur' planned' := by
  intro todo
  induction todo with
  | nil => intro done cur planned hsplit hK; exact ⟨cur, planned, rfl, by rwa [hsplit, List.append_nil]⟩
  | cons a todo ih =>
    intro done cur planned hsplit hK
    obtain ⟨cur', planned', hstep, hK'⟩ := step_K hinv hord hsplit hK
    rw [List.foldl_cons, hstep]
    exact ih (done ++ [a]) cur' planned' (by rw [hsplit, List.append_assoc]; rfl) hK'

theorem run_K (s0 : St) (order : List Nat) (hinv : Inv s0) (hord : OrderOk s0 order) :
    ∃ s' planned, run s0 order = some (s', planned) ∧ K s0 order s' planned :=
  fold_K s0 order hinv hord order [] s0 [] rfl
    ⟨rfl, nofun, nofun, nofun, fun _ _ => rfl, Nat.le_refl _, hinv.clockGt, nofun⟩

/-- C12 core: from any state satisfying the invariant, a default run over a consistent forest does not
    fail, leaves every entity with certificate and key, and every certificate that carries a hash line
    reflects the current configuration and chains to its issuer's current certificate. -/
theorem run_converges (s0 : St) (order : List Nat) (hinv : Inv s0) (hord : OrderOk s0 order) :
    ∃ s' planned, run s0 order = some (s', planned) ∧
      (∀ a, a ∈ planned ↔ Needs s0 a) ∧
      ∀ a c, s0.cfg a = some c →
        ∃ f ce k, s'.pem a = some f ∧ f.cert = some ce ∧ f.key = some k ∧
          (∀ h, f.hash = some h → h = c.view ∧ ce.view = c.view ∧ Good s' c ce) := by
  obtain ⟨s', planned, hrun, hK⟩ := run_K s0 order hinv hord
  refine ⟨s', planned, hrun, fun a => ⟨fun h => (hK.iff a (hK.sub a h)).mp h, fun h => ?_⟩,
    fun a c hc => ?_⟩
  · obtain ⟨c, hc⟩ := h.cfg
    exact (hK.iff a (hord.complete a c hc)).mpr h
  · obtain ⟨f, ce, k, h1, h2, h3, h4, _⟩ := hK.file hinv (hord.complete a c hc) hc
    exact ⟨f, ce, k, h1, h2, h3, h4⟩

end Conv
