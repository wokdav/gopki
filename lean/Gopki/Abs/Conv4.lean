import Gopki.Abs.Conv
import Gopki.Base.ListAux
/-! C10 at the abstract level: after a successful default run, a second default run plans nothing
    and leaves the state untouched. -/
namespace Conv

theorem no_reason_noop (s : St) (hno : ∀ a c, s.cfg a = some c → ¬ localReason s a c) :
    ∀ (order : List Nat), order.foldl (step s) (some (s, [])) = some (s, []) := by
  refine List.foldl_fixed fun a => ?_
  unfold step
  cases hc : s.cfg a with
  | none => rfl
  | some c => simp [parentPlanned_iff, hno a c hc]

/-- during a run, no entity already passed is left with a reason -/
theorem K.no_reason {s0 cur : St} {done planned : List Nat} {a : Nat} {c : Cfg} (hinv : Inv s0)
    (hK : K s0 done cur planned) (ha : a ∈ done) (hc : s0.cfg a = some c) : ¬ localReason cur a c := by
  obtain ⟨f, ce, k, hf, hce, hk, hh, hnew⟩ := hK.file hinv ha hc
  rintro (hm | hch | hin)
  · rcases (missing_iff hf).mp hm with h | h
    · rw [hce] at h; cases h
    · rw [hk] at h; cases h
  · obtain ⟨h, hhash, hne⟩ := (changed_iff hf).mp hch
    exact hne (hh h hhash).1
  · obtain ⟨i, hi, hlt⟩ := issuerNewer_iff.mp hin
    rw [mtimeOf_some hf] at hlt
    exact Nat.not_lt.mpr (hnew i hi) hlt

/-- a successful default run ends in a state in which no entity has a reason -/
theorem run_no_reason {s0 s' : St} {order planned : List Nat} (hinv : Inv s0) (hord : OrderOk s0 order)
    (hrun : run s0 order = some (s', planned)) : ∀ a c, s'.cfg a = some c → ¬ localReason s' a c := by
  obtain ⟨s'', planned', hrun', hK⟩ := run_K s0 order hinv hord
  rw [hrun] at hrun'; cases hrun'
  intro a c hc'
  have hc : s0.cfg a = some c := hK.cfgEq ▸ hc'
  exact hK.no_reason hinv (hord.complete a c hc) hc

/-- hence the next default run plans nothing and changes nothing (over the same order here; `no_reason_noop` gives any) -/
theorem second_run_noop (s0 : St) (order : List Nat) (hinv : Inv s0) (hord : OrderOk s0 order)
    {s' : St} {planned : List Nat} (hrun : run s0 order = some (s', planned)) :
    run s' order = some (s', []) :=
  no_reason_noop _ (run_no_reason hinv hord hrun) order

end Conv
