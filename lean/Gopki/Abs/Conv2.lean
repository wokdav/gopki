import Gopki.Abs.Conv
/-! C12/C15, second half: *any* run (any strategy, stopped at any point by an error or a crash); that it
    preserves the invariant a later default run relies on is `grun_sinv` in `Conv3`. -/
namespace Conv

abbrev Inv' := Inv

/-- one step of an arbitrary run: `R` = the strategy's own reasons (read on `s0`), `budget` = number of
    files that will still be written before the run stops (error, crash); `none` = unlimited -/
structure Acc where
  cur : St
  planned : List Nat     -- generated so far
  budget : Option Nat

def gstep (s0 : St) (R : Nat → Cfg → Bool) (acc : Acc) (a : Nat) : Acc :=
  match s0.cfg a with
  | none => acc
  | some c =>
    if acc.budget = some 0 then acc else
    if parentPlanned c acc.planned ∨ R a c = true then
      match generate acc.cur a c with
      | some cur' => { cur := cur', planned := acc.planned ++ [a], budget := acc.budget.map (· - 1) }
      | none => { acc with budget := some 0 }          -- the run fails here; nothing more is written
    else acc

def grun (s0 : St) (R : Nat → Cfg → Bool) (budget : Option Nat) (order : List Nat) : Acc :=
  order.foldl (gstep s0 R) ⟨s0, [], budget⟩

structure G (s0 : St) (done : List Nat) (acc : Acc) : Prop where
  cfgEq : acc.cur.cfg = s0.cfg
  sub : ∀ a ∈ acc.planned, a ∈ done
  closed : ∀ b ∈ done, ∀ cb j, s0.cfg b = some cb → cb.issuer = some j → j ∈ done
  unch : ∀ a, a ∉ acc.planned → acc.cur.pem a = s0.pem a
  clockLe : s0.clock ≤ acc.cur.clock
  gen : ∀ a ∈ acc.planned, ∃ c f ce k, s0.cfg a = some c ∧ acc.cur.pem a = some f ∧ f.hash = some c.view ∧
          f.cert = some ce ∧ f.key = some k ∧ ce.subjKey = k ∧ ce.view = c.view ∧ Good acc.cur c ce ∧
          s0.clock ≤ f.mtime ∧ f.mtime < acc.cur.clock

end Conv
