import Gopki.Props.C11
import Gopki.Abs.Bridge
import Gopki.Abs.PlanList
/-! Whole-plan refinement between the detailed model's `PlanBulkUpdate` and the abstract machine's run (default strategy). -/
namespace Bridge
open Db

/-- what ties one alias of the detailed model to one index of the abstract machine -/
structure Tied (s : State) (hashOf : V1.CertificateContent → Der.Bytes) (now : Int) (st0 : Conv.St) (idx : String → Nat) (a : String) : Prop where
  ex : ∃ cfg e c, validateAndMerge s a = .ok cfg ∧ s.find a = some e ∧ cfg.alias_ = a ∧ st0.cfg (idx a) = some c ∧
        (needsUpdate s defaultStrategy e cfg (hashOf cfg) now = true ↔ Conv.localReason st0 (idx a) c) ∧
        (∀ upd : List String, (∀ x ∈ upd, (s.find x).isSome = true) → (upd.contains cfg.issuer = true ↔ Conv.parentPlanned c (upd.map idx)))

/-- **whole-plan refinement**: if every alias of the queue is tied to its index, the aliases the detailed model plans
    under the default strategy (the recursion `C11.planSpec`, which `C11_plan_eq_spec` shows `PlanBulkUpdate` computes) are,
    index for index and in the same order, the entities the abstract machine plans (`Conv.planList`, which
    `Conv.run_planned` shows a successful `Conv.run` returns) -/
theorem planSpec_refines (s : State) (hashOf : V1.CertificateContent → Der.Bytes) (now : Int) (st0 : Conv.St) (idx : String → Nat) :
    ∀ (order upd out : List String), (∀ a ∈ order, Tied s hashOf now st0 idx a) → (∀ x ∈ upd, (s.find x).isSome = true) →
      C11.planSpec s defaultStrategy hashOf now order upd = some out →
      Conv.planList st0 (order.map idx) (upd.map idx) = upd.map idx ++ out.map idx := by
  intro order
  induction order with
  | nil => intro upd out _ _ h; cases h; simp [Conv.planList]
  | cons a rest ih =>
    intro upd out ht hupd h
    obtain ⟨cfg, e, c, hv, hf, hal, hc, hloc, hpar⟩ := (ht a List.mem_cons_self).ex
    have hrest : ∀ b ∈ rest, Tied s hashOf now st0 idx b := fun b hb => ht b (List.mem_cons_of_mem _ hb)
    -- the two machines take the same decision
    have hD : planDecision s defaultStrategy hashOf now upd e cfg = true ↔
        Conv.parentPlanned c (upd.map idx) ∨ Conv.localReason st0 (idx a) c := by
      rw [planDecision, Bool.or_eq_true, hpar upd hupd, hloc]
    simp only [C11.planSpec, hv, hf] at h
    simp only [List.map_cons, Conv.planList, hc]
    by_cases hd : planDecision s defaultStrategy hashOf now upd e cfg = true
    · rw [if_pos hd] at h
      rw [if_pos (hD.mp hd)]
      cases hr : C11.planSpec s defaultStrategy hashOf now rest (upd ++ [cfg.alias_]) with
      | none => rw [hr] at h; cases h
      | some out' =>
        rw [hr] at h; cases h
        have hupd' : ∀ x ∈ upd ++ [cfg.alias_], (s.find x).isSome = true := by
          intro x hx
          rcases List.mem_append.mp hx with h1 | h1
          · exact hupd x h1
          · rw [List.mem_singleton.mp h1, hal, hf]; rfl
        have ih := ih (upd ++ [cfg.alias_]) out' hrest hupd' hr
        rw [hal, List.map_append] at ih
        exact ih.trans (by rw [List.append_assoc]; rfl)
    · rw [if_neg hd] at h
      rw [if_neg (mt hD.mpr hd)]
      exact ih upd out hrest hupd h

/-- the parent clause of `Tied` for an entity with an issuer, from injectivity of the index map -/
theorem parent_tied (idx : String → Nat) (hinj : ∀ x y, idx x = idx y → x = y) (issuer : String) (c : Conv.Cfg)
    (h : c.issuer = some (idx issuer)) (upd : List String) :
    upd.contains issuer = true ↔ Conv.parentPlanned c (upd.map idx) := by
  unfold Conv.parentPlanned
  rw [h]
  simp only [List.contains_iff_mem, List.mem_map]
  constructor
  · intro hm; exact ⟨issuer, hm, rfl⟩
  · rintro ⟨x, hx, he⟩; rw [← hinj x issuer he]; exact hx

/-- **`PlanBulkUpdate` refines the abstract run** (default strategy): if every alias of the hierarchy is tied to its
    index, then whenever the detailed model's `planBulkUpdate` returns a change list and the abstract machine's run over
    the same breadth-first queue succeeds, the abstract machine has planned exactly those entities, in that order -/
theorem plan_refinement (s : State) (hashOf : V1.CertificateContent → Der.Bytes) (now : Int) (st0 st : Conv.St) (idx : String → Nat)
    (changes : List Change) (planned : List Nat)
    (htied : ∀ order, Forest.bfs s.ents (s.entities.length + 1) [] (Forest.roots s.ents) = some order → ∀ a ∈ order, Tied s hashOf now st0 idx a)
    (hplan : planBulkUpdate s defaultStrategy hashOf now = .ok changes)
    (hrun : ∀ order, Forest.bfs s.ents (s.entities.length + 1) [] (Forest.roots s.ents) = some order → Conv.run st0 (order.map idx) = some (st, planned)) :
    planned = (changes.map (·.alias_)).map idx := by
  obtain ⟨order, ho, hs⟩ := C11.C11_plan_eq_spec s defaultStrategy hashOf now changes hplan
  have h1 := planSpec_refines s hashOf now st0 idx order [] _ (htied order ho) (by simp) hs
  have h2 := Conv.run_planned st0 (order.map idx) st planned (hrun order ho)
  rw [h2]
  simpa using h1

/-- **`Tied` from the abstraction**: an alias is tied to its index as soon as the abstract state holds the abstraction
    (`absPem`) of its artifact file and of its issuer's, its configuration entry carries the interned hash and the
    issuer's index, the interning separates the stored hash from the current one, and the index map is injective -/
theorem tied_of_abs (s : State) (hashOf : V1.CertificateContent → Der.Bytes) (now : Int) (st0 : Conv.St) (idx : String → Nat)
    (vid : Der.Bytes → Nat) (a : String) (cfg : V1.CertificateContent) (e : Entity) (c : Conv.Cfg)
    (hv : validateAndMerge s a = .ok cfg) (hf : s.find a = some e) (hal : cfg.alias_ = a) (hc : st0.cfg (idx a) = some c)
    (hw : WfEnt e) (hp : st0.pem (idx a) = absPem vid e) (hview : c.view = vid (hashOf cfg))
    (hinjH : ∀ h, e.meta_.lastConfigHash = some h → (vid h = vid (hashOf cfg) ↔ h = hashOf cfg))
    (hinj : ∀ x y, idx x = idx y → x = y)
    (hiss : match s.find cfg.issuer with
            | some ie => c.issuer = some (idx cfg.issuer) ∧ WfEnt ie ∧ st0.pem (idx cfg.issuer) = absPem vid ie
            | none => c.issuer = none) :
    Tied s hashOf now st0 idx a := by
  refine ⟨cfg, e, c, hv, hf, hal, hc, ?_, ?_⟩
  · apply needsUpdate_default_iff_localReason s e cfg (hashOf cfg) now vid st0 (idx a) c hw hp hview hinjH
    cases hfi : s.find cfg.issuer with
    | none => rw [hfi] at hiss; exact hiss
    | some ie => rw [hfi] at hiss; exact ⟨idx cfg.issuer, hiss.1, hiss.2.1, hiss.2.2⟩
  · intro upd hupd
    cases hfi : s.find cfg.issuer with
    | some ie =>
      rw [hfi] at hiss
      exact parent_tied idx hinj cfg.issuer c hiss.1 upd
    | none =>
      -- no issuer entity: the abstract entry has no issuer, and `upd` holds entities only
      rw [hfi] at hiss
      have hno : cfg.issuer ∉ upd := fun hm => by simpa [hfi] using hupd _ hm
      simp [Conv.parentPlanned_iff, hiss, hno]

end Bridge
