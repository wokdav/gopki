import Gopki.Lemmas.GenShape
import Gopki.Lemmas.B64Round
import Gopki.Lemmas.CertRound
/-! # C06 — extension list, criticality and raw values reach the certificate unchanged

Raw values are given as base64 (`!binary:`): first that layer, then `compile`, then the list in the DER. -/
namespace C06
open Gen Config

/-- base64 of any byte string decodes to that byte string (strict decoder; any length) -/
theorem C06_b64_any_length (bs : List UInt8) : B64.dec (B64.enc bs) = some bs := B64.dec_enc bs

/-- the decoder gopki actually uses (the model of Go's `base64.StdEncoding.DecodeString`: CR / LF skipped, non-zero
    trailing bits tolerated) reads the base64 of any byte string back, of every length -/
theorem C06_go_decoder_any_length (bs : List UInt8) : V1.goB64Decode (B64.enc bs) = some bs := V1.goB64Decode_enc bs

/-- … also when the text is wrapped: CR and LF may stand anywhere in it -/
theorem C06_go_decoder_wrapped (bs l : List UInt8) (h : l.filter (fun b => b ≠ 13 ∧ b ≠ 10) = B64.enc bs) :
    V1.goB64Decode l = some bs := V1.goB64Decode_wrapped bs l h

/-- a raw (`ConstantBuilder`) extension compiles to exactly itself: OID, critical flag and value bytes -/
theorem C06_constant_compiles_to_itself (e : Cert.Ext) (ctx : Context) (iss : IssuerContext) :
    compile (.constant e) ctx iss = .ok e := rfl

theorem mapM_constant (ctx : Context) (iss : IssuerContext) (es : List Cert.Ext) :
    (es.map Builder.constant).mapM (compile · ctx iss) = .ok es := by
  rw [List.mapM_map]
  exact (List.mapM_eq_pure_map (g := id) fun _ _ => rfl).trans (by rw [List.map_id]; rfl)

/-- **order, OID, critical flag and value are kept**: a body whose builders are constants (raw values and all
    content kinds except the two hashed key identifiers) is signed with exactly that extension list, in that order,
    for lists of any length -/
theorem C06_extensions_in_order (ctx : Context) (iss : IssuerContext) (alg : Nat) (es : List Cert.Ext)
    (hb : ctx.builders = es.map Builder.constant) (tbs : Tbs) (outer : AlgId) (k : PrivKey)
    (h : signBody ctx iss alg = .ok (tbs, outer, k)) : tbs.exts = es := by
  obtain ⟨exts, _, _, hexts, _, rfl⟩ := signBody_ok h
  rw [hb, mapM_constant] at hexts
  exact (Except.ok.inj hexts).symm

/-- `commonExtensionHandler`: a raw value becomes a constant extension with the extension's OID, the configured
    critical flag and exactly the decoded bytes -/
theorem C06_raw_handler (e : V1.Ext) (oid : Oid) (b : Der.Bytes) (hraw : e.raw.isEmpty = false)
    (hnc : e.content.exists_ = false) (hr : V1.readRawString e.raw = .ok b) :
    V1.commonExtensionHandler e oid = .ok (some (.constant ⟨oid, e.critical, b⟩)) := by
  unfold V1.commonExtensionHandler
  simp [hraw, hnc, hr, bind, Except.bind, pure, Except.pure]

/-- `!null` and `!empty` -/
theorem C06_null_empty : V1.readRawString "!null" = .ok [5, 0] ∧ V1.readRawString "!empty" = .ok [] := ⟨rfl, rfl⟩

/-- **the extension list in the encoded certificate is the body's**: same length, same order, each with its OID, its
    critical flag and its value byte for byte — for extension lists of any length and values of any content -/
theorem C06_extensions_reach_the_der (t : Gen.Tbs) (v : Der.Tlv) (h : Gen.tbsTlv t = .ok v) (ht : CertWf.TbsOk t) :
    ∃ r, X509.decTbs v = some r ∧ r.extensions = t.exts.map CertRound.specExt := by
  obtain ⟨r, _, _, hr, _, hf⟩ := CertRound.decTbs_tbsTlv t v h ht
  exact ⟨r, hr, hf.extensions⟩

end C06
