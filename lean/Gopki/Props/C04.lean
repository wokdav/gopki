import Gopki.Lemmas.CalInv
import Gopki.Lemmas.Instant
import Gopki.Lemmas.CertRound
/-! # C04 — validity period in the certificate equals the configured dates or duration

The calendar is the proleptic Gregorian one on integer days (`Gopki.Base.Calendar`); the model of
`toTimeStruct`, `AddDate` and the UTC conversion is compared with the implementation on every calendar day
of 1950–2200 under nine zone offsets (thorough tier).  Proved here: the days ↔ civil inverse law for
**every** year (`Calendar.civilFromDays_daysFromCivil`, assembled in `Lemmas/CalInv.lean` from `Cal.mp_inv`,
`Cal.doy_bounds` and the year-of-era law `Calendar.yoe_table`), hence that a `from` / `until`
date is local midnight of exactly that day in every zone (`C04_date_is_local_midnight`), the duration grammar,
the time form, the instants in the validity fields and in the DER (`C04_instant_roundtrip`,
`C04_validity_reaches_the_der`), a duration as calendar addition (`C04_duration_is_calendar_addition`). -/
namespace C04
open Calendar V1

/-- `parseDate` on ten characters of the pattern's shape: the day they spell, at local midnight, if there is such a day -/
theorem parseDate_digits (y1 y2 y3 y4 m1 m2 d1 d2 : Char) (off : Int)
    (hdig : [y1, y2, y3, y4, m1, m2, d1, d2].all Config.isDigit = true) :
    let n (c : Char) : Nat := c.toNat - 48
    let y : Int := (n y1 * 1000 + n y2 * 100 + n y3 * 10 + n y4 : Nat)
    parseDate (String.ofList [y1, y2, y3, y4, '-', m1, m2, '-', d1, d2]) off =
      if validDate y (n m1 * 10 + n m2) (n d1 * 10 + n d2) then some (goDate y (n m1 * 10 + n m2 : Nat) (n d1 * 10 + n d2 : Nat) 0 0 0 off)
      else none := by
  unfold parseDate
  simp only [String.toList_ofList, hdig, if_true]

/-- **`from` and `until` are read as YYYY-MM-DD at local midnight**: for every valid calendar date written
    with four, two and two digits, `parseDate` yields an instant whose wall clock in the zone of the given offset
    is that date at 00:00:00 — every year 0000 … 9999, every zone offset -/
theorem C04_date_is_local_midnight (y1 y2 y3 y4 m1 m2 d1 d2 : Char) (off : Int)
    (hdig : [y1, y2, y3, y4, m1, m2, d1, d2].all Config.isDigit = true)
    (hv : validDate (((y1.toNat - 48) * 1000 + (y2.toNat - 48) * 100 + (y3.toNat - 48) * 10 + (y4.toNat - 48) : Nat) : Int)
            ((m1.toNat - 48) * 10 + (m2.toNat - 48)) ((d1.toNat - 48) * 10 + (d2.toNat - 48)) = true) :
    ∃ t, parseDate (String.ofList [y1, y2, y3, y4, '-', m1, m2, '-', d1, d2]) off = some t ∧
      wallOf t off = ⟨(((y1.toNat - 48) * 1000 + (y2.toNat - 48) * 100 + (y3.toNat - 48) * 10 + (y4.toNat - 48) : Nat) : Int),
                      (m1.toNat - 48) * 10 + (m2.toNat - 48), (d1.toNat - 48) * 10 + (d2.toNat - 48), 0, 0, 0⟩ :=
  ⟨_, (parseDate_digits y1 y2 y3 y4 m1 m2 d1 d2 off hdig).trans (if_pos hv), wallOf_goDate_midnight _ _ _ off hv⟩

/-- non-vacuity: 2025-03-05 in a zone two hours east of UTC -/
example : ∃ t, parseDate "2025-03-05" 7200 = some t ∧ wallOf t 7200 = ⟨2025, 3, 5, 0, 0, 0⟩ :=
  C04_date_is_local_midnight '2' '0' '2' '5' '0' '3' '0' '5' 7200 (by decide) (by decide)

/-- an impossible date that passes the schema's pattern is rejected (a configuration error) -/
theorem C04_invalid_rejected : parseDate "2025-02-30" 0 = none ∧ parseDate "2025-13-01" 0 = none ∧ parseDate "2100-02-29" 0 = none :=
  ⟨(parseDate_digits '2' '0' '2' '5' '0' '2' '3' '0' 0 rfl).trans (if_neg (by decide)),
   (parseDate_digits '2' '0' '2' '5' '1' '3' '0' '1' 0 rfl).trans (if_neg (by decide)),
   (parseDate_digits '2' '1' '0' '0' '0' '2' '2' '9' 0 rfl).trans (if_neg (by decide))⟩

theorem num_digits (ds : List Char) (c : Char) (r acc : List Char) (hd : ∀ x ∈ ds, Config.isDigit x = true)
    (hc : Config.isDigit c = false) : parseDuration.num (ds ++ c :: r) acc = (acc.reverse ++ ds, c :: r) := by
  induction ds generalizing acc with
  | nil => simp [parseDuration.num, hc]
  | cons d ds ih =>
    rw [List.forall_mem_cons] at hd
    simp [parseDuration.num, hd.1, ih _ hd.2]

/-- one part of a duration as `parseDuration` reads it (there a local function without a name): a number followed by the
    unit `u`; otherwise nothing is consumed and the part counts 0 -/
def part (cs : List Char) (u : Char) : Nat × List Char :=
  match parseDuration.num cs [] with
  | (d :: ds, c :: r) => if c = u then ((d :: ds).foldl (fun a x => a * 10 + (x.toNat - 48)) 0, r) else (0, cs)
  | _ => (0, cs)

theorem parseDuration_of_parts {s : String} {y m d : Nat} {r1 r2 : List Char} (h1 : part s.toList 'y' = (y, r1))
    (h2 : part r1 'm' = (m, r2)) (h3 : part r2 'd' = (d, [])) : parseDuration s = some (y, m, d) := by
  unfold parseDuration
  -- `p` is the parser's local function; stated for `parseDuration s` as a whole, the agreement with `part` is dear to check
  -- by `rfl`, since each `let` repeats what is left of the input
  extract_lets p
  have hp : p = part := rfl
  simp only [hp, h1, h2, h3]
  rfl

/-- a part of a duration as it is written: a decimal number and its unit, or nothing -/
def written (n : Option Nat) (c : Char) : List Char := match n with | some n => Nat.toDigits 10 n ++ [c] | none => []

/-- a written part in front of `rest` is taken, completely, when its unit is asked for, and left when another is: `Nat.toDigits 10 n`
    (which is `toString n`) is all digits and not empty, and the parser's fold over it is `Nat.ofDigitChars` -/
theorem part_written (n : Option Nat) (c u : Char) (rest : List Char) (hc : Config.isDigit c = false)
    (hrest : part rest u = (0, rest)) :
    part (written n c ++ rest) u = if c = u then (n.getD 0, rest) else (0, written n c ++ rest) := by
  cases n with
  | none => simpa [written] using hrest
  | some n =>
    have hdig : ∀ x ∈ Nat.toDigits 10 n, Config.isDigit x = true := fun x hx => by
      have := Nat.isDigit_of_mem_toDigits (by decide) (by decide) hx
      simpa [Config.isDigit, Char.isDigit, Char.le_def] using this
    have hv : (Nat.toDigits 10 n).foldl (fun a x => a * 10 + (x.toNat - 48)) 0 = n := by
      have := Nat.ofDigitChars_ten_toDigits (n := n)
      simp only [Nat.ofDigitChars, Nat.mul_comm 10] at this
      exact this
    obtain ⟨d, ds, hds⟩ := List.exists_cons_of_ne_nil (Nat.toDigits_ne_nil (b := 10) (n := n))
    rw [written, List.append_assoc, List.singleton_append, part, num_digits _ c _ [] hdig hc]
    rw [hds] at hv ⊢
    simp only [List.reverse_nil, List.nil_append, hv, Option.getD_some]

/-- **the documented grammar `NyMmDd`, any subset, in this order**: every number is read completely, whatever its number of
    digits, and an absent part counts 0 -/
theorem parseDuration_written (y m d : Option Nat) :
    parseDuration (String.ofList (written y 'y' ++ written m 'm' ++ written d 'd')) = some (y.getD 0, m.getD 0, d.getD 0) := by
  -- each part is taken when its own unit is asked for and left when an earlier one is
  have hd (u : Char) := part_written d 'd' u [] rfl rfl
  have hm (u : Char) (h : 'd' ≠ u) := part_written m 'm' u _ rfl ((hd u).trans (if_neg h))
  have hy := part_written y 'y' 'y' _ rfl ((hm 'y' (by decide)).trans (if_neg (by decide)))
  rw [List.append_assoc, ← List.append_nil (written d 'd')]
  exact parseDuration_of_parts (by rw [String.toList_ofList]; exact hy.trans (if_pos rfl)) ((hm 'm' (by decide)).trans (if_pos rfl))
    ((hd 'd').trans (if_pos rfl))

/-- the documented duration grammar `NyMmDd` (any subset, in this order): seven durations as they are written, and three
    texts outside the grammar -/
theorem C04_duration_grammar :
    parseDuration "5y" = some (5, 0, 0) ∧ parseDuration "5y6m2d" = some (5, 6, 2) ∧ parseDuration "18m" = some (0, 18, 0) ∧
    parseDuration "400d" = some (0, 0, 400) ∧ parseDuration "1y10m" = some (1, 10, 0) ∧ parseDuration "2y12m15d" = some (2, 12, 15) ∧
    parseDuration "" = some (0, 0, 0) ∧ parseDuration "1d1y" = none ∧ parseDuration "1x" = none ∧ parseDuration "-1d" = none :=
  ⟨parseDuration_written (some 5) none none, parseDuration_written (some 5) (some 6) (some 2), parseDuration_written none (some 18) none,
   parseDuration_written none none (some 400), parseDuration_written (some 1) (some 10) none,
   parseDuration_written (some 2) (some 12) (some 15), parseDuration_written none none none, by decide, by decide, by decide⟩

/-- a month count of any number of digits is read completely -/
theorem parseDuration_months (m : Nat) : parseDuration (toString m ++ "m") = some (0, m, 0) := by
  have h := parseDuration_written none (some m) none
  simp only [written, List.nil_append, List.append_nil, String.ofList_append, ← Nat.toString_eq_ofList_toDigits] at h
  exact h

/-- `parseDuration_months` for the month counts below 130 -/
theorem C04_duration_months_digits : ∀ m ∈ List.range 130, parseDuration (toString m ++ "m") = some (0, m, 0) :=
  fun m _ => parseDuration_months m

/-- written in UTC: UTCTime for the years 1950 … 2049, GeneralizedTime before and after -/
theorem C04_utc_tag (c : Asn1.Civil) (t : Der.Tlv) (h : Asn1.tTime c = some t) :
    (∃ body, t = .prim 0x17 body ∧ 1950 ≤ c.year ∧ c.year < 2050) ∨
    (∃ body, t = .prim 0x18 body ∧ ¬ (1950 ≤ c.year ∧ c.year < 2050) ∧ 0 ≤ c.year ∧ c.year ≤ 9999) :=
  TimeRound.tTime_form c t h

/-- a certificate without a validity block of its own takes its profile's; otherwise its own wins -/
theorem C04_inherit (own prof : Config.Validity) :
    (if !own.isSet && prof.isSet then prof else own) = (if own.isSet then own else if prof.isSet then prof else own) := by
  cases own.isSet <;> cases prof.isSet <;> rfl

/-- **both halves of the calendar law**, for every day number and every valid date of every year -/
theorem C04_calendar_bijection :
    (∀ (y : Int) (m d : Nat), Calendar.validDate y m d = true → Calendar.civilFromDays (Calendar.daysFromCivil y m d) = (y, m, d)) ∧
    (∀ z : Int, Calendar.validDate (Calendar.civilFromDays z).1 (Calendar.civilFromDays z).2.1 (Calendar.civilFromDays z).2.2 = true ∧
      Calendar.daysFromCivil (Calendar.civilFromDays z).1 (Calendar.civilFromDays z).2.1 ((Calendar.civilFromDays z).2.2 : Int) = z) :=
  ⟨Calendar.civilFromDays_daysFromCivil, Calendar.daysFromCivil_civilFromDays⟩

/-- **notBefore / notAfter carry exactly the configured instants**: for every instant whose UTC year lies in
    0 … 9999 (later ones are rejected: one of the repairs, DESIGN.md §9) the validity field the model writes is read back by the
    specification reader as exactly that instant — UTCTime for 1950 … 2049, GeneralizedTime otherwise, canonical
    form.  Together with `C04_date_is_local_midnight` (a configured date is local midnight of that day) and the
    byte-for-byte correspondence of the model's certificates this is the statement of C04 for absolute dates. -/
theorem C04_instant_roundtrip (t : Int) (hy : 0 ≤ (Calendar.wallOf t 0).year ∧ (Calendar.wallOf t 0).year ≤ 9999) :
    ∃ tag content, Gen.timeTlv t = .ok (.prim tag content) ∧ X509.decTime tag content = some t ∧
      X509.primCanonical tag content = true ∧ (tag = 0x17 ↔ (1950 ≤ (Calendar.wallOf t 0).year ∧ (Calendar.wallOf t 0).year < 2050)) :=
  Gen.timeTlv_roundtrip t hy

/-- non-vacuity: 2026-09-28 00:00:00 UTC (1790553600) is in range -/
example : 0 ≤ (Calendar.wallOf 1790553600 0).year ∧ (Calendar.wallOf 1790553600 0).year ≤ 9999 := by decide

/-- **the validity instants in the encoded certificate are the body's**, for all inputs (any other fields around them) -/
theorem C04_validity_reaches_the_der (t : Gen.Tbs) (v : Der.Tlv) (h : Gen.tbsTlv t = .ok v) (ht : CertWf.TbsOk t) :
    ∃ r, X509.decTbs v = some r ∧ r.notBefore = t.notBefore ∧ r.notAfter = t.notAfter := by
  obtain ⟨r, _, _, hr, _, hf⟩ := CertRound.decTbs_tbsTlv t v h ht
  exact ⟨r, hr, hf.notBefore, hf.notAfter⟩

/-- **a `duration` of N years, months and days is calendar-added to notBefore** (the arithmetic the model uses for
    `AddDate`, as a theorem): from any instant — a `from` date at local midnight or the time of the run —, in any zone,
    the end of validity shows the wall clock *year and month reached by counting months, day number plus N days, same
    time of day*, whenever that day exists in that month.  When it does not (31 January + 1 month), Go normalises the
    excess days into the following month; that rule is `Calendar.goDate` and is compared with the implementation on
    every day of the range by the `validity` operation. -/
theorem C04_duration_is_calendar_addition (t0 off : Int) (y mo d : Nat) :
    let w := Calendar.wallOf t0 off
    let Y' : Int := w.year + y + ((w.month : Int) + mo - 1) / 12
    let M' : Nat := (((w.month : Int) + mo - 1) % 12).toNat + 1
    w.day + d ≤ Calendar.daysInMonth Y' M' →
    Calendar.wallOf (Calendar.addDate t0 off y mo d) off = ⟨Y', M', w.day + d, w.hour, w.minute, w.second⟩ :=
  Calendar.addDate_calendar t0 off y mo d

/-- every time of day, not only midnight: `goDate` shows the wall clock it was given -/
theorem C04_goDate_wall (y : Int) (m d h mi s : Nat) (off : Int) (hv : Calendar.validDate y m d = true)
    (hh : h < 24) (hmi : mi < 60) (hs : s < 60) :
    Calendar.wallOf (Calendar.goDate y (m : Int) (d : Int) h mi s off) off = ⟨y, m, d, h, mi, s⟩ :=
  Calendar.wallOf_goDate y m d h mi s off hv hh hmi hs

/-- non-vacuity: 2025-03-05 00:00 two hours east of UTC, plus 1 year 2 months 3 days, is 2026-05-08 00:00 there;
    and the hypothesis matters: 31 January plus one month is not "31 February" (Go yields 3 March) -/
example : Calendar.wallOf (Calendar.addDate (Calendar.goDate 2025 3 5 0 0 0 7200) 7200 1 2 3) 7200 = ⟨2026, 5, 8, 0, 0, 0⟩ := by decide
example : Calendar.wallOf (Calendar.addDate (Calendar.goDate 2025 1 31 0 0 0 0) 0 0 1 0) 0 = ⟨2025, 3, 3, 0, 0, 0⟩ := by decide

end C04
