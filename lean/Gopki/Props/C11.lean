import Gopki.Model.Db
import Gopki.Generated.Facts
import Gopki.Base.ListAux
/-! # C11 — an entity is regenerated exactly when an enabled reason applies, issuers first

`shouldRegen` is the decision table of the statement over observable facts; `C11_needsUpdate_iff`
proves that the model of `needsUpdate` (its eight tests in code order, nil cases included) computes
exactly that table, for all 32 strategies and all states.  `planSpec` is the statement's recursion over the
parent-first order; `C11_plan_eq_spec`: `PlanBulkUpdate` plans exactly what it selects (on the file level:
`Conv.run_converges`; the order: `Forest.bfs_main`).  Last the command line: the regenerated flag table and
how a strategy number is read (which flags give which number: `Model/Cli.lean`). -/
namespace C11
open Db

/-- the statement's decision table -/
def shouldRegen (st : Strategy) (certMissing keyMaterialMissing storedHashDiffers cfgNewerThanArtifact
    expiredButRenewable issuerArtifactNewer : Bool) : Bool :=
  st.all || (!st.none_ && issuerArtifactNewer) || (st.missing && (certMissing || keyMaterialMissing)) ||
  (st.changed && storedHashDiffers) || (st.newerConfig && cfgNewerThanArtifact) || (st.expired && expiredButRenewable)

/-- the Boolean identity behind `C11_needsUpdate_iff`: the tests in code order (left) and in the statement's order
    (right); `x`, `A`, `hd` stand for the three `match`es of the code, primed for those of the statement -/
theorem decision_bool {x n i A A' hd hd' : Bool} (hx : x = (n && i)) (hA : A = A') (hh : hd = hd')
    (a nc cn ex B mi cm km ch : Bool) :
    (if a = true then true else (x || (nc && cn) || (ex && A && B) || (mi && (cm || km)) || (ch && hd))) =
    (a || (n && i) || (mi && (cm || km)) || (ch && hd') || (nc && cn) || (ex && (A' && B))) := by
  subst hx hA hh
  cases a
  · simp only [Bool.false_eq_true, if_false, Bool.false_or, Bool.and_assoc]; ac_rfl
  · rfl

/-- **C11 (local reasons)**: `needsUpdate` is the decision table, for every strategy and state -/
theorem C11_needsUpdate_iff (s : State) (st : Strategy) (e : Entity) (cfg : V1.CertificateContent) (hash : Der.Bytes) (now : Int) :
    needsUpdate s st e cfg hash now =
      shouldRegen st e.art.cert.isNone (e.art.key.isNone && e.art.request.isNone)
        (match e.meta_.lastConfigHash with | some h => decide (h ≠ hash) | none => false)
        (decide (e.meta_.lastConfigUpdate > e.meta_.lastBuild))
        ((match e.art.cert with | some c => decide (c.notAfter < now) | none => false) && decide (cfg.validity.until_ > now))
        (match s.find cfg.issuer with | some i => decide (i.meta_.lastBuild > e.meta_.lastBuild) | none => false) := by
  -- `needsUpdate` unfolds by definition to the nested `if a = true then true else …` of `decision_bool`'s left side
  exact decision_bool (by cases s.find cfg.issuer <;> simp) (by cases e.art.cert <;> rfl)
    (by cases e.meta_.lastConfigHash <;> rfl) ..

/-- the statement's recursion over the parent-first order: an entity is planned iff its issuer was planned
    earlier in this run or `needsUpdate` (the decision table above) says so; `none` = planning fails -/
def planSpec (s : State) (st : Strategy) (hashOf : V1.CertificateContent → Der.Bytes) (now : Int) :
    List String → List String → Option (List String)
  | [], _ => some []
  | a :: rest, upd =>
    match validateAndMerge s a with
    | .error _ => none
    | .ok cfg =>
      match s.find a with
      | none => none
      | some e =>
        if planDecision s st hashOf now upd e cfg then (planSpec s st hashOf now rest (upd ++ [cfg.alias_])).map (a :: ·)
        else planSpec s st hashOf now rest upd

/-- one successful step of the loop adds the change `planSpec` selects, or none -/
theorem planSpec_cons_of_step {s : State} {st : Strategy} {hashOf : V1.CertificateContent → Der.Bytes} {now : Int}
    {acc acc1 : PlanAcc} {a : String} (hs : planStep s st hashOf now (.ok acc) a = .ok acc1) (rest : List String) :
    ∃ nc, acc1.changes = acc.changes ++ nc ∧ planSpec s st hashOf now (a :: rest) acc.updated =
      (planSpec s st hashOf now rest acc1.updated).map (nc.map (·.alias_) ++ ·) := by
  simp only [planStep] at hs
  split at hs
  · cases hs
  · rename_i cfg hv
    split at hs
    · cases hs
    · rename_i e hf
      split at hs <;> cases hs
      · exact ⟨[_], rfl, by simp only [planSpec, hv, hf, if_pos ‹_›]; rfl⟩
      · exact ⟨[], (List.append_nil _).symm, by simp only [planSpec, hv, hf, if_neg ‹_›]; simp⟩

theorem foldl_planStep_spec (s : State) (st : Strategy) (hashOf now) :
    ∀ (order : List String) (acc acc' : PlanAcc),
      order.foldl (planStep s st hashOf now) (.ok acc) = .ok acc' →
      ∃ newChanges, acc'.changes = acc.changes ++ newChanges ∧
        planSpec s st hashOf now order acc.updated = some (newChanges.map (·.alias_)) := by
  intro order
  induction order with
  | nil => intro acc acc' h; cases h; exact ⟨[], by simp, rfl⟩
  | cons a rest ih =>
    intro acc acc' h
    rw [List.foldl_cons] at h
    cases hs : planStep s st hashOf now (.ok acc) a with
    | error err => rw [hs, List.foldl_fixed (fun _ => rfl)] at h; cases h
    | ok acc1 =>
      rw [hs] at h
      obtain ⟨nc', h1, h2⟩ := ih acc1 acc' h
      obtain ⟨nc, h3, h4⟩ := planSpec_cons_of_step hs rest
      exact ⟨nc ++ nc', by rw [h1, h3, List.append_assoc], by rw [h4, h2]; simp⟩

/-- **C11 (whole run)**: for hierarchies of any size, the aliases `PlanBulkUpdate` returns are exactly those the
    statement's recursion selects, in the order of the breadth-first worklist (issuers first, `Forest.bfs_main`) -/
theorem C11_plan_eq_spec (s : State) (st : Strategy) (hashOf : V1.CertificateContent → Der.Bytes) (now : Int) (changes : List Change)
    (h : planBulkUpdate s st hashOf now = .ok changes) :
    ∃ order, Forest.bfs s.ents (s.entities.length + 1) [] (Forest.roots s.ents) = some order ∧
      planSpec s st hashOf now order [] = some (changes.map (·.alias_)) := by
  unfold planBulkUpdate at h
  split at h
  · cases h
  · rename_i order ho
    split at h
    · cases h
    · rename_i acc hacc
      cases h
      obtain ⟨nc, h1, h2⟩ := foldl_planStep_spec s st hashOf now order {} acc hacc
      exact ⟨order, ho, by rw [h1]; exact h2⟩

/-- with every flag off nothing is ever regenerated -/
theorem C11_no_flags_no_regen (s : State) (e : Entity) (cfg : V1.CertificateContent) (hash : Der.Bytes) (now : Int) :
    needsUpdate s (Strategy.ofBits 0) e cfg hash now = false := by
  rw [C11_needsUpdate_iff]; rfl

/-- the flags of `gopki sign`, regenerated from cli/root.go's AST: names, shorthands, defaults (-m and -c
    on) and the strategy bit each sets; the bits are distinct powers of two -/
theorem C11_flags_table :
    Facts.signFlags = [⟨"generate-all", "a", false, 16⟩, ⟨"generate-changed", "c", true, 8⟩, ⟨"generate-expired", "e", false, 2⟩,
                       ⟨"generate-missing", "m", true, 1⟩, ⟨"generate-outdated", "o", false, 4⟩] ∧
    Facts.updateBits = [("UpdateNone", 0), ("UpdateMissing", 1), ("UpdateExpired", 2), ("UpdateNewerConfig", 4), ("UpdateChanged", 8), ("UpdateAll", 16)] :=
  ⟨rfl, rfl⟩

/-- bit `k` of `n`, tested by masking as the Go code does and by division as `Strategy.ofBits` does -/
theorem and_two_pow_ne_zero_iff (n k : Nat) : n &&& 2 ^ k ≠ 0 ↔ n / 2 ^ k % 2 = 1 := by
  rw [← decide_eq_true_iff (p := _ % 2 = 1), ← Nat.testBit_eq_decide_div_mod_eq]
  -- `n &&& 2 ^ k` has no bit but `k`, and that one exactly if `n` has it
  have hbit (i) : (n &&& 2 ^ k).testBit i = (n.testBit i && decide (k = i)) := by
    rw [Nat.testBit_and, Nat.testBit_two_pow]
  constructor
  · intro h
    obtain ⟨i, hi⟩ := Nat.exists_testBit_of_ne_zero h
    rw [hbit, Bool.and_eq_true, decide_eq_true_iff] at hi
    exact hi.2 ▸ hi.1
  · exact fun h h0 => by simpa [h0, h] using hbit k

/-- for every number; about the model only: for a number ≥ 32, which the command line never produces, Go's
    `strat != UpdateNone` still sees the higher bits -/
theorem strategy_ofBits (n : Nat) :
    Strategy.ofBits n = ⟨n &&& 1 ≠ 0, n &&& 2 ≠ 0, n &&& 4 ≠ 0, n &&& 8 ≠ 0, n &&& 16 ≠ 0⟩ := by
  have h (k) : decide (n / 2 ^ k % 2 = 1) = decide (n &&& 2 ^ k ≠ 0) :=
    decide_eq_decide.mpr (and_two_pow_ne_zero_iff n k).symm
  have h0 := h 0
  rw [Nat.div_one] at h0
  rw [Strategy.ofBits, Strategy.mk.injEq]
  exact ⟨h0, h 1, h 2, h 3, h 4⟩

/-- the model reads a strategy number bit by bit exactly as the constants are laid out -/
theorem C11_strategy_bits : ∀ n ∈ List.range 32,
    Strategy.ofBits n = ⟨n &&& 1 ≠ 0, n &&& 2 ≠ 0, n &&& 4 ≠ 0, n &&& 8 ≠ 0, n &&& 16 ≠ 0⟩ := fun n _ => strategy_ofBits n

end C11
