import Gopki.Lemmas.GenShape
/-! # C19 — manipulations alter exactly the named field and stay under the signature -/
namespace C19
open Gen Config

/-- the outer manipulations (`.signatureAlgorithm`, `.signatureValue`) are never read while the
    to-be-signed part is built and signed: the signed bytes are untouched by them -/
theorem C19_outer_leaves_tbs (c : V1.CertificateContent) (prk : Option PrivKey) (req : Option Spki) (o : Oracle)
    (sa : Option Oid) (sv : Option Der.Bytes) :
    buildCertBody { c with manipulations := { c.manipulations with signatureAlgorithm := sa, signatureValue := sv } } prk req o =
    buildCertBody c prk req o := rfl

/-- `.version` changes the version and nothing else of the body -/
theorem C19_version_frame (c : V1.CertificateContent) (prk : Option PrivKey) (req : Option Spki) (o : Oracle) (v : Int) (ctx : Context)
    (h : buildCertBody c prk req o = .ok ctx) :
    buildCertBody { c with manipulations := { c.manipulations with version := some v } } prk req o =
      .ok { ctx with tbs := { ctx.tbs with version := v } } := by
  obtain ⟨bs, hbs, rfl⟩ := buildCertBody_ok.mp h
  exact buildCertBody_ok.mpr ⟨bs, hbs, rfl⟩

/-- `.tbs.signature` presets the inner algorithm (and `Sign` keeps a preset one) and changes nothing else -/
theorem C19_tbs_signature_frame (c : V1.CertificateContent) (prk : Option PrivKey) (req : Option Spki) (o : Oracle) (a : Oid) (ctx : Context)
    (h : buildCertBody c prk req o = .ok ctx) :
    buildCertBody { c with manipulations := { c.manipulations with tbsSignature := some a } } prk req o =
      .ok { ctx with tbs := { ctx.tbs with sigAlg := some ⟨a, none⟩ } } := by
  obtain ⟨bs, hbs, rfl⟩ := buildCertBody_ok.mp h
  exact buildCertBody_ok.mpr ⟨bs, hbs, rfl⟩

/-- `.tbs.subjectPublicKey.subjectPublicKey` replaces the key bits (byte aligned) and changes nothing else;
    the private key — and hence the signature key for issued certificates — is untouched -/
theorem C19_public_key_frame (c : V1.CertificateContent) (prk : Option PrivKey) (req : Option Spki) (o : Oracle) (b : Der.Bytes) (ctx : Context)
    (h : buildCertBody c prk req o = .ok ctx) (hnone : c.manipulations.tbsPublicKey = none) :
    buildCertBody { c with manipulations := { c.manipulations with tbsPublicKey := some b } } prk req o =
      .ok { ctx with tbs := { ctx.tbs with spki := { ctx.tbs.spki with bits := ⟨b, 8 * b.length⟩ } } } := by
  obtain ⟨bs, hbs, rfl⟩ := buildCertBody_ok.mp h
  exact buildCertBody_ok.mpr ⟨bs, hbs, by dsimp only [body]; rw [hnone]⟩

/-- `.tbs.subjectPublicKey.algorithm` replaces the algorithm identifier (no parameters) and nothing else -/
theorem C19_public_key_alg_frame (c : V1.CertificateContent) (prk : Option PrivKey) (req : Option Spki) (o : Oracle) (a : Oid) (ctx : Context)
    (h : buildCertBody c prk req o = .ok ctx) (hnone : c.manipulations.tbsPublicKeyAlgorithm = none) (hb : c.manipulations.tbsPublicKey = none) :
    buildCertBody { c with manipulations := { c.manipulations with tbsPublicKeyAlgorithm := some a } } prk req o =
      .ok { ctx with tbs := { ctx.tbs with spki := { ctx.tbs.spki with alg := ⟨a, none⟩ } } } := by
  obtain ⟨bs, hbs, rfl⟩ := buildCertBody_ok.mp h
  exact buildCertBody_ok.mpr ⟨bs, hbs, by dsimp only [body]; rw [hnone, hb]⟩

/-- a preset inner algorithm survives signing; everything `signBody` returns is covered by the signature
    (the signature is computed over `tbsTlv` of exactly this value) -/
theorem C19_sign_keeps_preset (ctx : Context) (iss : IssuerContext) (alg : Nat) (a : AlgId) (tbs : Tbs) (outer : AlgId) (k : PrivKey)
    (hpre : ctx.tbs.sigAlg = some a) (h : signBody ctx iss alg = .ok (tbs, outer, k)) :
    tbs.sigAlg = some a ∧ tbs.version = ctx.tbs.version ∧ tbs.spki = ctx.tbs.spki := by
  obtain ⟨_, _, _, _, _, rfl⟩ := signBody_ok h
  simp [hpre]

/-- a subject key identifier requested as `hash` follows manipulated key bits: it is computed from the
    bits that are in the body when the extensions are compiled -/
theorem C19_ski_follows_bits (crit : Bool) (ctx : Context) (iss : IssuerContext) :
    compile (.subjectKeyIdHash crit) ctx iss = .ok (Cert.newSubjectKeyIdentifier crit ctx.tbs.spki.bits.bytes) := rfl

/-- a value `Manipulations.apply` cannot parse is an error, never a silent skip: `apply` succeeds only
    if every one of the five textual fields was parsed -/
theorem C19_apply_total (m : V1.Manipulations) (r : Config.Manipulations) (h : m.apply = .ok r) :
    V1.optOid m.outerSigAlg = .ok r.signatureAlgorithm ∧ V1.optRaw m.sigValue = .ok r.signatureValue ∧
    V1.optOid m.tbsSig = .ok r.tbsSignature ∧ V1.optOid m.tbsPubKeyAlg = .ok r.tbsPublicKeyAlgorithm ∧
    V1.optRaw m.tbsPubKey = .ok r.tbsPublicKey ∧ r.version = m.version := by
  unfold V1.Manipulations.apply at h
  split at h
  · rename_i h1 h2 h3 h4 h5
    cases h; exact ⟨h1, h2, h3, h4, h5, rfl⟩
  all_goals cases h

/-- in particular an OID with an arc that does not fit is reported -/
theorem C19_bad_oid_reported (s : String) (hne : s.isEmpty = false) (hbad : oidFromString s = none) :
    ∃ e, V1.optOid s = .error e := by
  unfold V1.optOid
  simp [hne, hbad]

/-- what the manipulations of the to-be-signed part do to a body, field by field -/
def applyTbsManip (m : Config.Manipulations) (t : Tbs) : Tbs :=
  let spki1 : Spki := match m.tbsPublicKeyAlgorithm with | some a => { t.spki with alg := ⟨a, none⟩ } | none => t.spki
  let spki2 : Spki := match m.tbsPublicKey with | some b => { spki1 with bits := ⟨b, 8 * b.length⟩ } | none => spki1
  { t with version := m.version.getD t.version,
           sigAlg := match m.tbsSignature with | some a => some ⟨a, none⟩ | none => t.sigAlg,
           spki := spki2 }

/-- **decomposition, for every subset of the manipulation keys at once**: the body built from a configuration
    with manipulations is the body built from the same configuration *without* them, with exactly the named
    fields set to exactly the given values (`applyTbsManip`); serial, names, validity, unique ids, key material
    and extension builders are those of the unmanipulated configuration.  The two outer manipulations do not
    occur in `applyTbsManip` at all. -/
theorem C19_decomposition (c : V1.CertificateContent) (prk : Option PrivKey) (req : Option Spki) (o : Oracle) :
    buildCertBody c prk req o =
      (buildCertBody { c with manipulations := {} } prk req o).map fun ctx =>
        { ctx with tbs := applyTbsManip c.manipulations ctx.tbs } := by
  rw [buildCertBody_eq, buildCertBody_eq]
  cases c.extensions.mapM V1.Ext.builder with
  | error e => rfl
  | ok bs =>
    dsimp only [Except.map, body, applyTbsManip]
    cases c.manipulations.version <;> cases c.manipulations.tbsSignature <;> rfl

/-- non-vacuity / reading aid: with the empty manipulation block nothing is changed -/
theorem applyTbsManip_empty (t : Tbs) : applyTbsManip {} t = t := rfl

end C19
