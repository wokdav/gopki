import Gopki.Model.Db
import Gopki.Lemmas.GenShape
import Gopki.Props.C01
import Gopki.Lemmas.CertRound
/-! # C03 — subject DN, serial number and unique ids are exactly what the config says

`Rdn.parse_render` (in `Gopki.Model.Rdn`): every subject of the documented grammar — one or more
`KEY=value` pairs, any number of blanks around the commas — parses to exactly its pairs, values
unchanged, in reversed order, for subjects of any length.  The theorems below carry the parsed subject,
the serial number and the unique ids through body construction and signing. -/
namespace C03
open Gen Config

/-- the body carries the configured subject, serial number (when configured) and unique ids unchanged -/
theorem C03_body_fields (c : V1.CertificateContent) (prk : Option PrivKey) (req : Option Spki) (o : Oracle) (ctx : Context)
    (h : buildCertBody c prk req o = .ok ctx) :
    (c.subject ≠ [] → ctx.tbs.subject = c.subject) ∧ (c.serialNumber ≠ 0 → ctx.tbs.serial = c.serialNumber) ∧
    (c.serialNumber = 0 → ctx.tbs.serial = (o.serial : Int)) ∧
    ctx.tbs.issuerUid = c.issuerUniqueId ∧ ctx.tbs.subjectUid = c.subjectUniqueId := by
  obtain ⟨bs, -, rfl⟩ := buildCertBody_ok.mp h
  exact ⟨fun hne => if_neg (mt List.isEmpty_iff.mp hne), fun hne => if_pos hne, fun h0 => if_neg (not_not_intro h0), rfl, rfl⟩

/-- signing changes neither subject, serial number nor unique ids -/
theorem C03_sign_keeps_fields (ctx : Context) (iss : IssuerContext) (alg : Nat) (tbs : Tbs) (outer : AlgId) (k : PrivKey)
    (h : signBody ctx iss alg = .ok (tbs, outer, k)) :
    tbs.subject = ctx.tbs.subject ∧ tbs.serial = ctx.tbs.serial ∧ tbs.issuerUid = ctx.tbs.issuerUid ∧ tbs.subjectUid = ctx.tbs.subjectUid := by
  obtain ⟨_, _, _, _, _, rfl⟩ := signBody_ok h
  exact ⟨rfl, rfl, rfl, rfl⟩

/-- in the model validation is a function: the statement is `rfl` and says no more; that the implementation leaves the
    caller's subject alone is held by the `validate` operation, which snapshots it before and after the call -/
theorem C03_validate_is_pure (p : V1.CertificateProfile) (c : V1.CertificateContent) :
    Db.validateSubject p c = Db.validateSubject p { c with alias_ := c.alias_ } := rfl

/-- **subject, serial number and unique ids in the encoded certificate are the body's**, for all inputs: the RFC 5280
    reader returns from the model's DER exactly the attribute list (types and values, in order), the serial number and
    the unique-id bit strings of the body that was encoded.  With `C03_body_fields` / `C03_sign_keeps_fields` (the
    body carries the configuration's values) and `Rdn.parse_render` (the subject string parses to its pairs) this is
    the statement of C03 at the level of bytes. -/
theorem C03_fields_reach_the_der (t : Gen.Tbs) (v : Der.Tlv) (h : Gen.tbsTlv t = .ok v) (ht : CertWf.TbsOk t) :
    ∃ r, X509.decTbs v = some r ∧ X509.decName r.subject = some t.subject ∧ X509.decInt r.serialContent = some t.serial ∧
      r.issuerUid = t.issuerUid.map (fun b => Asn1.bitStringContent b.bytes b.bitLength) ∧
      r.subjectUid = t.subjectUid.map (fun b => Asn1.bitStringContent b.bytes b.bitLength) := by
  obtain ⟨r, _, _, hr, _, hf⟩ := CertRound.decTbs_tbsTlv t v h ht
  exact ⟨r, hr, hf.subject, hf.serial.2, hf.issuerUid, hf.subjectUid⟩

end C03
