import Gopki.Lemmas.DerLemmas
import Gopki.Lemmas.IntLemmas
import Gopki.Generated.Facts
import Gopki.Lemmas.TimeRound
import Gopki.Lemmas.CertWf
import Gopki.Lemmas.CertRound
import Gopki.Lemmas.CertPipeline
import Gopki.Lemmas.GenShape
/-! # C02 — emitted certificates are canonical-DER, conformant X.509v3 structures

The container first, then the fields one by one, then the whole: valid tags and canonical primitives (`CertWf`),
the reader returns the fields (`CertRound`), end to end from `signBody` (`CertPipeline`). -/
namespace C02
open Der Asn1 Gen Config

/-- **the checker that is run on every certificate gopki really writes is sound**: whatever the strict
    decoder accepts re-encodes to exactly the same bytes (decoding then re-encoding reproduces the block
    byte for byte), for byte strings of any length -/
theorem C02_reencode_identity (bs : Bytes) (t : Tlv) (h : X509.decodeDer bs = some t) : t.enc = bs :=
  X509.decodeDer_sound bs t h

/-- and it is complete: every well-formed value (low-tag form, consistent constructed bit, lengths below
    2^64) is accepted and read back unchanged — in particular the model's certificate -/
theorem C02_model_cert_decodable (t : Tlv) (h : t.wf = true) : X509.decodeDer t.enc = some t :=
  X509.decodeDer_enc t h

/-- for every index and whatever the table holds: by the definition of `sigAlgId`, not by running through the table -/
theorem sigAlgId_params (alg : Nat) :
    ((sigAlgId alg).map fun a => (a.oid, a.params.map Tlv.enc)) =
      (sigAlgTable[alg]?).map fun p => (p.1, if p.2 = 0 then some [5, 0] else none) := by
  unfold sigAlgId
  rcases sigAlgTable[alg]? with _ | ⟨o, _ | k⟩ <;> rfl

/-- signature AlgorithmIdentifier parameters: NULL for the four RSA PKCS#1 v1.5 algorithms, absent for
    the four ECDSA ones (the whole table) -/
theorem C02_algid_params :
    ∀ alg ∈ List.range 8, ((sigAlgId alg).map fun a => (a.oid, a.params.map Tlv.enc)) =
      (sigAlgTable[alg]?).map fun (o, k) => (o, if k = 0 then some [5, 0] else none) := fun alg _ => sigAlgId_params alg

/-- inner and outer signature AlgorithmIdentifier are the same value unless the inner one is manipulated -/
theorem C02_inner_eq_outer (ctx : Context) (iss : IssuerContext) (alg : Nat) (tbs : Tbs) (outer : AlgId) (k : PrivKey)
    (hno : ctx.tbs.sigAlg = none) (h : signBody ctx iss alg = .ok (tbs, outer, k)) :
    (tbs.sigAlg.map fun a => (a.oid, a.params.map Tlv.enc)) = some (outer.oid, outer.params.map Tlv.enc) := by
  obtain ⟨_, _, _, _, _, rfl⟩ := signBody_ok h
  simp [hno]

/-- the version is v3 (value 2) unless manipulated, through body construction and signing -/
theorem C02_version_v3 (c : V1.CertificateContent) (prk : Option PrivKey) (req : Option Spki) (o : Oracle) (ctx : Context)
    (hv : c.manipulations.version = none) (h : buildCertBody c prk req o = .ok ctx) : ctx.tbs.version = 2 := by
  obtain ⟨bs, -, rfl⟩ := buildCertBody_ok.mp h
  exact congrArg (·.getD 2) hv

/-- a configured serial number is used as it is; otherwise the drawn one -/
theorem C02_serial_source (c : V1.CertificateContent) (prk : Option PrivKey) (req : Option Spki) (o : Oracle) (ctx : Context)
    (h : buildCertBody c prk req o = .ok ctx) :
    ctx.tbs.serial = if c.serialNumber ≠ 0 then c.serialNumber else (o.serial : Int) := by
  obtain ⟨bs, -, rfl⟩ := buildCertBody_ok.mp h
  rfl

/-- a serial number drawn below 2^159 (the regenerated `snMax`, see `C05.model_defaults_eq_facts`) is a
    non-negative INTEGER of at most 20 content octets in canonical form -/
theorem C02_serial_len (n : Nat) (h : n < 2 ^ Facts.snMaxBits) :
    (intBytes (n : Int)).length ≤ 20 ∧ X509.intCanonical (intBytes (n : Int)) = true :=
  ⟨natIntBytes_length_le 19 n (Nat.lt_of_lt_of_eq h (by decide)), natIntBytes_canonical n⟩

/-- times: UTCTime exactly for the years 1950 … 2049, GeneralizedTime otherwise -/
theorem C02_time_form (c : Civil) (t : Tlv) (h : tTime c = some t) :
    (∃ body, t = .prim 0x17 body ∧ 1950 ≤ c.year ∧ c.year < 2050) ∨
    (∃ body, t = .prim 0x18 body ∧ ¬ (1950 ≤ c.year ∧ c.year < 2050) ∧ 0 ≤ c.year ∧ c.year ≤ 9999) :=
  TimeRound.tTime_form c t h

/-- non-vacuity: a concrete certificate-shaped value is well-formed, hence decoded back -/
example : X509.decodeDer (Tlv.cons 0x30 [.cons 0x30 [.cons 0xa0 [.prim 2 [2]], .prim 2 [5], .cons 0x30 [.prim 6 [42, 3]]], .cons 0x30 [.prim 6 [42, 3]], .prim 3 [0, 1, 2]]).enc
    = some (Tlv.cons 0x30 [.cons 0x30 [.cons 0xa0 [.prim 2 [2]], .prim 2 [5], .cons 0x30 [.prim 6 [42, 3]]], .cons 0x30 [.prim 6 [42, 3]], .prim 3 [0, 1, 2]]) := by
  apply X509.decodeDer_enc; decide

/-- **time round trip**: every valid civil time of the years 0 … 9999 is written in the DER form its year demands
    and is read back by the specification reader as exactly that instant; in particular the content is the
    canonical `YYMMDDHHMMSSZ` / `YYYYMMDDHHMMSSZ` form (what `X509.primCanonical` demands of tags 0x17 / 0x18) -/
theorem C02_time_roundtrip (c : Civil) (hy : 0 ≤ c.year ∧ c.year ≤ 9999) (hv : Calendar.validDate c.year c.month c.day = true)
    (hh : c.hour < 24) (hm : c.minute < 60) (hs : c.second < 60) :
    ∃ tag content, tTime c = some (.prim tag content) ∧
      X509.decTime tag content = some (Calendar.goDate c.year c.month c.day c.hour c.minute c.second 0) ∧
      X509.primCanonical tag content = true ∧ (tag = 0x17 ↔ (1950 ≤ c.year ∧ c.year < 2050)) :=
  TimeRound.tTime_roundtrip c hy hv hh hm hs

/-- **the model's to-be-signed certificate is canonical DER for all inputs**: whatever configuration, key, serial,
    names, dates, unique ids and extension list went into it — if the model produces a TBSCertificate at all
    (`tbsTlv` rejects what `encoding/asn1` rejects: invalid OIDs, years outside 0…9999) then every tag in it is a
    valid low-tag-form identifier with the right constructed bit, every INTEGER, BOOLEAN, BIT STRING, OID and time
    is in canonical form, and — its encoding being shorter than 2^64 octets — it is well formed, so the strict
    decoder reads exactly this value back from its encoding (and re-encoding reproduces the bytes,
    `C02_reencode_identity`).  `TbsOk` asks: OID arcs below 2^63, AlgorithmIdentifier parameters that are canonical
    values themselves (NULL, a curve OID), a byte-aligned key bit string. -/
theorem C02_model_tbs_canonical (t : Gen.Tbs) (v : Tlv) (h : tbsTlv t = .ok v) (ht : CertWf.TbsOk t)
    (hl : v.enc.length < 2 ^ 64) :
    v.wf = true ∧ X509.canonical v = true ∧ X509.decodeDer v.enc = some v :=
  CertWf.good_decodable (CertWf.good_tbs t v h ht) hl

/-- the same for the whole certificate: signed body, outer AlgorithmIdentifier, byte-aligned signature -/
theorem C02_model_cert_canonical (t : Gen.Tbs) (tv : Tlv) (outer : AlgId) (sig : Bytes) (v : Tlv)
    (htbs : tbsTlv t = .ok tv) (ht : CertWf.TbsOk t) (ha : CertWf.AlgOk outer)
    (h : certTlv ⟨tv, outer, ⟨sig, 8 * sig.length⟩⟩ = .ok v) (hl : v.enc.length < 2 ^ 64) :
    v.wf = true ∧ X509.canonical v = true ∧ X509.decodeDer v.enc = some v :=
  CertWf.good_decodable (CertWf.good_cert ⟨tv, outer, ⟨sig, 8 * sig.length⟩⟩ v h (CertWf.good_tbs t tv htbs ht) ha rfl) hl

/-- **an independent reader accepts the model's certificate and reads the same fields back**, for all inputs: the
    reader of `Spec/X509.lean` (written from RFC 5280's ASN.1, sharing no code with the encoder) applied to the
    certificate the model builds returns the version, the serial number, inner and outer AlgorithmIdentifier (OID and
    parameters), issuer and subject names (every attribute type and value), both validity instants, the public key
    algorithm and bits, both unique ids and the extension list (OID, critical flag, value, order) that went in -/
theorem C02_model_cert_roundtrip (t : Gen.Tbs) (tv : Tlv) (outer : AlgId) (sig : BitString) (v : Tlv)
    (htbs : tbsTlv t = .ok tv) (ht : CertWf.TbsOk t) (ho : CertWf.OidOk outer.oid) (h : certTlv ⟨tv, outer, sig⟩ = .ok v) :
    ∃ c a, t.sigAlg = some a ∧ X509.decCertificate v = some c ∧ CertRound.Fields t a c.tbs ∧ c.tbs.raw = tv ∧
      c.sigAlg.oid = outer.oid ∧ c.sigAlg.params = outer.params ∧ c.signature = bitStringContent sig.bytes sig.bitLength :=
  CertRound.decCertificate_certTlv t tv outer sig v htbs ht ho h

/-- **end to end, from the signing pipeline**: whatever body `signBody` returns for a context whose inner signature
    algorithm is not manipulated — any issuer, any of the eight algorithms, any extension builders (constants with
    acceptable OIDs, hashed key identifiers), names with acceptable attribute OIDs, key material whose
    SubjectPublicKeyInfo is what `SetPrivateKey` writes — the certificate the model assembles from it (any signature
    octets) is well-formed canonical DER, the strict decoder returns exactly it, and the RFC 5280 reader returns the
    body's fields and the outer AlgorithmIdentifier -/
theorem C02_issued_certificate_canonical_and_readable (ctx : Context) (iss : IssuerContext) (alg : Nat) (tbs : Gen.Tbs)
    (outer : AlgId) (k : PrivKey) (tv v : Tlv) (sig : Bytes)
    (h : signBody ctx iss alg = .ok (tbs, outer, k)) (hno : ctx.tbs.sigAlg = none)
    (hiss : ∀ a ∈ iss.issuerDn, CertWf.OidOk a.oid) (hsubj : ∀ a ∈ ctx.tbs.subject, CertWf.OidOk a.oid)
    (hkeyAlg : CertWf.AlgOk ctx.tbs.spki.alg) (hkeyBits : CertWf.BitsOk ctx.tbs.spki.bits)
    (hb : ∀ b ∈ ctx.builders, CertPipeline.BuilderOk b)
    (htbs : tbsTlv tbs = .ok tv) (hc : certTlv ⟨tv, outer, ⟨sig, 8 * sig.length⟩⟩ = .ok v) (hl : v.enc.length < 2 ^ 64) :
    v.wf = true ∧ X509.canonical v = true ∧ X509.decodeDer v.enc = some v ∧
    ∃ c a, tbs.sigAlg = some a ∧ X509.decCertificate v = some c ∧ CertRound.Fields tbs a c.tbs ∧
      c.sigAlg.oid = outer.oid ∧ c.sigAlg.params = outer.params ∧ c.signature = 0 :: sig := by
  obtain ⟨hok, hout⟩ := CertPipeline.signBody_tbsOk ctx iss alg tbs outer k h hno hiss hsubj hkeyAlg hkeyBits hb
  obtain ⟨h1, h2, h3⟩ := C02_model_cert_canonical tbs tv outer sig v htbs hok hout hc hl
  obtain ⟨c, a, ha, hd, hf, _, ho1, ho2, hs⟩ := CertRound.decCertificate_certTlv tbs tv outer ⟨sig, 8 * sig.length⟩ v htbs hok hout.1 hc
  exact ⟨h1, h2, h3, c, a, ha, hd, hf, ho1, ho2, hs.trans (CertWf.bitStringContent_aligned sig)⟩

/-- what `signBody` puts into the algorithm identifiers satisfies `AlgOk`: the whole table -/
theorem C02_sigAlg_ok : ∀ alg ∈ List.range 8, ∀ a, sigAlgId alg = some a → CertWf.AlgOk a :=
  fun alg _ a ha => CertPipeline.algOk_of_sigAlgId alg a ha

/-- non-vacuity: a self-signed P-256 body (version 3, serial 5, CN=a, 2026…2031, one critical extension) is
    produced by the model and meets `TbsOk` -/
def exampleTbs : Gen.Tbs :=
  { version := 2, serial := 5, sigAlg := some ⟨[1,2,840,10045,4,3,2], none⟩, issuer := [⟨[2,5,4,3], .str "a"⟩],
    notBefore := 1790553600, notAfter := 1948320000, subject := [⟨[2,5,4,3], .str "a"⟩],
    spki := ⟨⟨[1,2,840,10045,2,1], some (tOid [1,2,840,10045,3,1,7])⟩, ⟨[4, 1, 2], 24⟩⟩,
    issuerUid := none, subjectUid := some ⟨[], 0⟩, exts := [⟨[2,5,29,19], true, [0x30, 0]⟩] }

example : (tbsTlv exampleTbs).toBool = true := by decide

example : CertWf.TbsOk exampleTbs := CertWf.tbsOk_of_tbsOkB _ (by decide)

end C02
