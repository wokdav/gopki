import Gopki.Model.Db
import Gopki.Lemmas.GenShape
import Gopki.Lemmas.PemRound
/-! # C14 — existing private keys and CSRs are reused, never replaced or invented -/
namespace C14
open Gen Config

/-- a stored private key is the key of the new certificate context, whatever the configuration says
    (including a changed `keyAlgorithm`), and — unless the key fields are manipulated — the certificate
    carries that key's public key -/
theorem C14_key_kept (c : V1.CertificateContent) (k : PrivKey) (req : Option Spki) (o : Oracle) (ctx : Context)
    (h : buildCertBody c (some k) req o = .ok ctx) :
    ctx.key = some k ∧
    (c.manipulations.tbsPublicKey = none → ctx.tbs.spki.bits = k.spki.bits) ∧
    (c.manipulations.tbsPublicKeyAlgorithm = none → c.manipulations.tbsPublicKey = none → ctx.tbs.spki.alg.oid = k.spki.alg.oid) := by
  obtain ⟨bs, -, rfl⟩ := buildCertBody_ok.mp h
  refine ⟨rfl, ?_, ?_⟩
  · intro hm; simp only [body, hm]; split <;> rfl   -- over `tbsPublicKeyAlgorithm`: a manipulated algorithm leaves the bits alone
  · intro ha hm; simp only [body, ha, hm]

/-- a stored request and no key: the certificate carries the request's public key and no private key
    comes into existence -/
theorem C14_csr (c : V1.CertificateContent) (r : Spki) (o : Oracle) (ctx : Context)
    (h : buildCertBody c none (some r) o = .ok ctx) :
    ctx.key = none ∧ (c.manipulations.tbsPublicKey = none → ctx.tbs.spki.bits = r.bits) := by
  obtain ⟨bs, -, rfl⟩ := buildCertBody_ok.mp h
  refine ⟨rfl, ?_⟩
  intro hm; simp only [body, hm]; split <;> rfl

/-- only an entity with neither key nor request gets the freshly generated key -/
theorem C14_fresh_only_when_nothing_stored (c : V1.CertificateContent) (prk : Option PrivKey) (req : Option Spki) (o : Oracle) (ctx : Context)
    (h : buildCertBody c prk req o = .ok ctx) (hfresh : ctx.key = some o.freshKey) (hne : prk ≠ some o.freshKey) :
    prk = none ∧ req = none := by
  obtain ⟨bs, -, rfl⟩ := buildCertBody_ok.mp h
  cases prk with
  | some k => exact absurd hfresh hne
  | none => cases req with
    | some r => cases hfresh
    | none => exact ⟨rfl, rfl⟩

/-- `GenerateArtifacts` hands the stored key (or none, for a request) on to the new artifact -/
theorem C14_generate_returns_stored_key (s : Db.State) (a : String) (o : Oracle) (g : Db.Generated) (e : Db.Entity) (k : PrivKey)
    (he : s.find a = some e) (hk : e.art.key = some k) (h : Db.generateArtifacts s a o = .ok g) : g.key = some k := by
  unfold Db.generateArtifacts at h
  simp only [he, hk] at h
  -- three steps may fail; when none does, the key returned is the one `buildCertBody` was given
  split at h; · cases h
  rename_i ctx hb
  split at h; · cases h
  split at h <;> cases h
  exact (C14_key_kept _ _ _ _ _ hb).1

/-- **the file layer keeps key and request**: the text `exportPemFile` writes is imported again (`ReadPem` + `importPem`,
    at the level of PEM blocks) as the same certificate and the same key; with no key in the file the request comes back —
    "the request stays in the file and no private key is written" survives the write / read cycle —, and with a key the
    key is what the entity continues with.  Contents of any length. -/
theorem C14_file_layer_keeps_key_and_request (hash c : Der.Bytes) (k r : Option Der.Bytes) :
    Pem.importParts (Pem.readAll 5 (Pem.exportFile hash (some c) k r)).1 = ⟨some c, k, if k.isSome then none else r⟩ :=
  Pem.import_exportFile hash c k r

end C14
