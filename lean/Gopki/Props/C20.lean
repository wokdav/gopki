import Gopki.Model.Hash
/-! # C20 — no file content or artifact state crashes gopki; problems surface as errors

The model returns an `Except` everywhere gopki's own code can fail.  The places where the Go code could
panic are inventoried from the source on every run (`harness sites`, compared with
`panic_sites.expected.json`); the theorems below discharge the explicit `panic` calls that depend on
values.  Panics inside the standard library and third-party parsers are outside the model (partial). -/
namespace C20
open Config V1

/-- an OID with an arc beyond what `encoding/asn1` can read back is rejected by `OidFromString`
    (a configuration error), for OID strings of any length -/
theorem C20_oid_range (s : String) (arcs : Oid) (h : oidFromString s = some arcs) : ∀ a ∈ arcs, a ≤ maxArc := by
  unfold oidFromString at h
  by_cases hs : s.isEmpty = true
  · rw [if_pos hs] at h; cases h; nofun
  rw [if_neg hs] at h
  split at h
  · cases h
  · next as _ =>
    -- past the range test the arcs are returned as they are, or not at all
    obtain ⟨hany, h⟩ := Option.ite_none_left_eq_some.mp h
    obtain rfl : as = arcs := by
      split at h
      · exact Option.some.inj (Option.ite_none_left_eq_some.mp h).2
      · exact Option.some.inj h
    exact fun a ha => Nat.le_of_not_lt fun hlt => hany (List.any_eq_true.mpr ⟨a, ha, decide_eq_true hlt⟩)

/-- `HashSum` can fail to marshal (and Go would panic) only through a date outside the years 0…9999 -/
theorem C20_hash_total (c : CertificateContent) (off : Int) (h : Hash.jsonOf c off = none) :
    (c.validity.isStatic && c.validity.isSet) = true ∧
    (Hash.rfc3339 c.validity.from_ off = none ∨ Hash.rfc3339 c.validity.until_ off = none) := by
  -- with both dates written, or neither needed, `jsonOf` returns a text
  cases hk : (c.validity.isStatic && c.validity.isSet)
  · simp [Hash.jsonOf, hk] at h
  cases hf : Hash.rfc3339 c.validity.from_ off
  · exact ⟨rfl, .inl rfl⟩
  cases hu : Hash.rfc3339 c.validity.until_ off
  · exact ⟨rfl, .inr rfl⟩
  simp [Hash.jsonOf, hk, hf, hu] at h

/-- … and `rfc3339` fails only for such a year -/
theorem C20_rfc3339_total (unix off : Int) (h : Hash.rfc3339 unix off = none) :
    (Calendar.wallOf unix off).year < 0 ∨ (Calendar.wallOf unix off).year > 9999 := by
  -- in any other year `rfc3339` returns a text
  refine Decidable.by_contra fun hn => ?_
  simp only [Hash.rfc3339, if_neg hn] at h
  cases h

end C20
