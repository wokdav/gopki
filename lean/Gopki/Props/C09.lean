import Gopki.Model.Validate
/-! # C09 — profile subject constraints are enforced, and only those

Property theorems for the model of `config.Validate`.  The statement's four clauses are
`Validate.Spec`; `C09_validate_spec` proves all of them for profiles and subjects of any length.
The original code (kept as `validateOld`) is refuted by kernel-checked witnesses. -/
namespace Validate

/-- the greedy walk decides the subsequence relation of R1 -/
theorem inOrder_iff_sublist (subj : List Oid) (as : List Attr) :
    inOrder subj as = true ↔ (subj.map some).Sublist (types as) := by
  fun_induction inOrder subj as with
  | case1 => simp
  | case2 => simp [types]
  | case3 h hs w ws heq ih =>
    simp only [types, List.map_cons] at ih ⊢
    rw [heq, List.cons_sublist_cons]; exact ih
  | case4 h hs w ws hne ih =>
    simp only [types, List.map_cons] at ih ⊢
    rw [ih, List.sublist_cons_iff]
    exact ⟨Or.inl, fun h => h.elim id fun ⟨_, e, _⟩ => absurd (List.cons.inj e).1.symm hne⟩

/-- the first loop looks for what R2 describes: a non-optional attribute that is unresolvable or absent -/
theorem requiredPresent_eq (subj : List Oid) (as : List Attr) : requiredPresent as subj =
    !as.any (fun a => !a.optional && (match a.ty with | none => true | some t => !subj.contains t)) := by
  induction as with
  | nil => rfl
  | cons a as ih =>
    simp only [requiredPresent, List.any_cons, ih]
    cases a.ty with
    | none => cases a.optional <;> rfl
    | some t =>
      cases a.optional
      · simp
      · rfl

theorem any_missing_iff (as : List Attr) (subj : List Oid) :
    as.any (fun a => !a.optional && (match a.ty with | none => true | some t => !subj.contains t)) = true ↔ R2 as subj := by
  simp only [List.any_eq_true]
  refine exists_congr fun a => and_congr_right fun _ => ?_
  cases a.ty <;> simp

theorem A1_sublist {as subj} (h : A1 as subj) : (subj.map some).Sublist (types as) := by
  induction h with
  | nil => exact .slnil
  | keep hty _ ih => simp only [List.map_cons, types, hty]; exact ih.cons_cons _
  | skip _ _ ih => exact ih.cons _

theorem A1_not_R2 {as subj} (h : A1 as subj) : ¬ R2 as subj := by
  induction h with
  | nil => exact fun ⟨_, ha, _⟩ => nomatch ha
  | keep hty _ ih =>
    rintro ⟨b, hb, hopt, hmiss⟩
    rcases List.mem_cons.mp hb with rfl | hm
    · exact hmiss _ hty List.mem_cons_self
    · exact ih ⟨b, hm, hopt, fun t ht hin => hmiss t ht (List.mem_cons_of_mem _ hin)⟩
  | skip hopt' _ ih =>
    rintro ⟨b, hb, hopt, hmiss⟩
    rcases List.mem_cons.mp hb with rfl | hm
    · exact Bool.noConfusion (hopt'.symm.trans hopt)
    · exact ih ⟨b, hm, hopt, hmiss⟩

/-- what `Validate` accepts, exactly, in the statement's terms: a subject that neither R2 nor R1 rules out -/
theorem validate_some_iff (as : List Attr) (allowOther : Bool) (subj : List Oid) :
    validate (some as) allowOther subj = true ↔ ¬ R2 as subj ∧ ¬ R1 as allowOther subj := by
  rw [← any_missing_iff, R1, ← inOrder_iff_sublist, validate, requiredPresent_eq]
  generalize as.any _ = missing
  cases allowOther <;> simp

/-- **C09**: the model of `Validate` satisfies all four clauses of the statement. -/
theorem C09_validate_spec : Spec validate where
  a2 _ _ := rfl
  r1 as allowOther subj h := Bool.eq_false_iff.mpr fun hv => ((validate_some_iff as allowOther subj).mp hv).2 h
  r2 as allowOther subj h := Bool.eq_false_iff.mpr fun hv => ((validate_some_iff as allowOther subj).mp hv).1 h
  a1 as allowOther subj h := (validate_some_iff as allowOther subj).mpr ⟨A1_not_R2 h, fun h1 => h1.2 (A1_sublist h)⟩

/-- the driver's decidable rendering agrees with the clauses: whenever it fixes a verdict, the model gives it -/
theorem C09_specVerdict_sound (attrs allowOther subj b)
    (h : specVerdict attrs allowOther subj = some b) : validate attrs allowOther subj = b := by
  cases attrs with
  | none => exact Option.some.inj h
  | some as =>
    -- `specVerdict` tests the very condition the first loop computes
    simp only [specVerdict] at h
    simp only [validate, requiredPresent_eq]
    generalize as.any _ = missing at h ⊢
    cases missing <;> cases allowOther <;> simp_all

/-- profile [C, O (optional), CN] -/
def prof : List Attr := [⟨some [2,5,4,6], false⟩, ⟨some [2,5,4,10], true⟩, ⟨some [2,5,4,3], false⟩]

/-- the code before the repair accepted a subject lacking a required attribute … -/
theorem old_violates_R2 : R2 prof [[2,5,4,6]] ∧ validateOld (some prof) false [[2,5,4,6]] = true :=
  ⟨⟨⟨some [2,5,4,3], false⟩, by decide, rfl, by intro t h; cases h; decide⟩, by decide⟩

/-- … and rejected one that omits only an optional attribute -/
theorem old_violates_A1 : A1 prof [[2,5,4,6], [2,5,4,3]] ∧
    validateOld (some prof) false [[2,5,4,6], [2,5,4,3]] = false :=
  ⟨A1.keep rfl (A1.skip rfl (A1.keep rfl A1.nil)), by decide⟩

theorem old_code_violates_C09 : ¬ Spec validateOld := fun h => by
  have := h.r2 prof false [[2,5,4,6]] old_violates_R2.1
  rw [old_violates_R2.2] at this
  exact Bool.noConfusion this

example : A1 prof [[2,5,4,6], [2,5,4,3]] := old_violates_A1.1
example : R2 prof [[2,5,4,6]] := old_violates_R2.1
example : R1 prof false [[2,5,4,3], [2,5,4,6]] := ⟨rfl, by decide⟩

end Validate
