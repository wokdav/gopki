import Gopki.Model.Pkcs8
import Gopki.Lemmas.Pkcs8Round
import Gopki.Lemmas.PemRound
/-! # C17 — private keys survive PKCS#8/PEM write and read, and interoperate

The container is DER (`X509.decodeDer_enc` / `decodeDer_sound` apply to it as to certificates); the
theorems here are about what is specific to keys: the fixed-width scalar, the curve table, and the
range check; then the PEM layer around them (block, file, stored hash: the `C17_pem_*` and
`C17_stored_hash_roundtrip` theorems, from `Lemmas/PemRound.lean`).  Curve arithmetic and RSA validation are checked by
the harness (partial). -/
namespace C17
open Der Pkcs8

/-- `FillBytes`: exactly `w` octets for every scalar below 256^w -/
theorem C17_scalar_width (w d : Nat) (h : d < 256 ^ w) : (natBEFixed w d).length = w := natBEFixed_length w d h

/-- the fixed-width scalar reads back as the same number, for every width and scalar:
    leading zero octets — as many as the width demands — do not change it -/
theorem C17_scalar_roundtrip (w d : Nat) : beNat (natBEFixed w d) = d := beNat_natBEFixed w d

/-- whatever `parseECPrivateKey` accepts is a scalar in 1 … n-1 on a known curve (scalar 0 and scalars ≥ n
    are rejected), for every input byte string -/
theorem C17_reject_out_of_range (outer : Option Oid) (der : Bytes) (c : Curve) (d : Nat)
    (h : parseEcInner outer der = .ok (c, d)) : 0 < d ∧ d < c.order ∧ c ∈ curves := by
  unfold parseEcInner at h
  -- the parser's four ways out before `.ok`: DER / fields, unknown curve, scalar out of range, excess octets
  split at h; · cases h
  split at h; · cases h
  rename_i curve hc
  split at h; · cases h
  rename_i hrange
  split at h; · cases h
  obtain ⟨rfl, rfl⟩ := Prod.mk.inj (Except.ok.inj h)
  simp only [Bool.or_eq_true, decide_eq_true_eq, not_or, Nat.not_le] at hrange
  exact ⟨Nat.pos_of_ne_zero hrange.1, hrange.2, List.mem_of_find?_eq_some hc⟩

/-- the curve table: ten curves, OIDs pairwise distinct, each OID found again by `namedCurveFromOID`,
    each OID read back from its DER content -/
theorem C17_curve_table :
    curves.length = 10 ∧ (curves.map (·.oid)).Nodup ∧
    (∀ c ∈ curves, namedCurveFromOID c.oid = some c ∧ X509.decOid (Asn1.oidContent c.oid) = some c.oid) :=
  ⟨rfl, oids_nodup, fun c hc => let ⟨_, _, h1, h2, _⟩ := curve_facts c hc; ⟨h1, h2⟩⟩

/-- an OID that is not in the table is not a curve -/
theorem C17_unknown_curve (o : Oid) (h : o ∉ curves.map (·.oid)) : namedCurveFromOID o = none := by
  apply List.find?_eq_none.mpr
  intro c hc hco
  exact h (List.mem_map.mpr ⟨c, hc, by simpa using hco⟩)

/-- **write then read is the identity on EC keys**: for every curve of the table, every scalar in
    1 … n-1 and every public point of up to 200 octets, the PKCS#8 bytes `marshalEc` writes (the model
    of `marshalECPrivateKeyWithOID` inside `MarshalPKCS8PrivateKey`) are parsed by `parse` (the model of
    `ParsePKCS8PrivateKey` / `parseECPrivateKey`) as the same curve and the same scalar.  The model's
    bytes equal the implementation's on every key the `pkcs8` operation writes (correspondence). -/
theorem C17_pkcs8_roundtrip (k : EcKey) (hc : k.curve ∈ curves) (hd : 0 < k.d ∧ k.d < k.curve.order) (hpub : k.pub.length ≤ 200) :
    parse (marshalEc k) = .ok (.ec k.curve k.d) :=
  parse_marshalEc k hc hd (Nat.lt_of_le_of_lt hpub (by decide))

/-- the inner structure alone (what `parseECPrivateKey` sees) -/
theorem C17_sec1_roundtrip (k : EcKey) (hc : k.curve ∈ curves) (hd : 0 < k.d ∧ k.d < k.curve.order) (hpub : k.pub.length ≤ 200) :
    parseEcInner (some k.curve.oid) (ecPrivateKeyTlv k).enc = .ok (k.curve, k.d) :=
  parseEcInner_ecPrivateKeyTlv k hc hd (Nat.lt_of_le_of_lt hpub (by decide))

set_option maxRecDepth 8000 in
/-- non-vacuity: on every curve of the table the scalar 1 meets the hypotheses -/
example : ∀ c ∈ curves, 0 < 1 ∧ 1 < c.order := fun c hc => ⟨Nat.one_pos, (order_bounds c hc).1⟩

/-- **PEM block round trip**: a block of one of the three types gopki writes, holding contents of any length and
    followed by anything, is read back by the model of `pem.Decode` as exactly that type and those bytes, and the
    scan continues exactly after it -/
theorem C17_pem_block_roundtrip (bs tail : Bytes) (fuel : Nat) :
    Pem.decode (fuel + 1) (Pem.encode Pem.tCertificate bs ++ tail) = some (⟨Pem.tCertificate, bs⟩, tail) ∧
    Pem.decode (fuel + 1) (Pem.encode Pem.tPrivateKey bs ++ tail) = some (⟨Pem.tPrivateKey, bs⟩, tail) ∧
    Pem.decode (fuel + 1) (Pem.encode Pem.tRequest bs ++ tail) = some (⟨Pem.tRequest, bs⟩, tail) :=
  ⟨Pem.decode_encode _ bs tail Pem.ty_ok.1 fuel, Pem.decode_encode _ bs tail Pem.ty_ok.2.1 fuel, Pem.decode_encode _ bs tail Pem.ty_ok.2.2 fuel⟩

/-- **a PEM file containing hash line, certificate, key and request parses back to the same objects**: the text
    `exportPemFile` writes (hash line, certificate, then key and / or request in every combination) is read by
    `ReadPem`'s loop as exactly those blocks in that order, without error — every combination, contents of any length -/
theorem C17_pem_file_roundtrip (hash c : Bytes) (k r : Option Bytes) :
    Pem.readAll 5 (Pem.exportFile hash (some c) k r) =
      ([⟨Pem.tCertificate, c⟩] ++ k.toList.map (fun x => ⟨Pem.tPrivateKey, x⟩) ++ r.toList.map (fun x => ⟨Pem.tRequest, x⟩), false) :=
  Pem.readAll_exportFile hash c k r

/-- **the configuration hash survives the file**: what `importCertConfigFile` reads from the text `exportPemFile` wrote
    is exactly the hash that was written (so an unchanged configuration never looks changed because of the file layer) -/
theorem C17_stored_hash_roundtrip (hash : Bytes) (c k r : Option Bytes) :
    Pem.readHash (Pem.exportFile hash c k r) = some hash := Pem.readHash_exportFile hash c k r

/-- non-vacuity / sanity: a concrete file with all three blocks -/
example : (Pem.readAll 5 (Pem.exportFile [1, 2, 3] (some [0x30, 0]) (some [0x30, 3, 2, 1, 0]) (some [0x30, 0]))).1.length = 3 := by
  rw [C17_pem_file_roundtrip]; rfl

end C17
