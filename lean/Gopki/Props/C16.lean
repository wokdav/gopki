import Gopki.Spec.Ext
import Gopki.Model.V1
import Gopki.Generated.Facts
import Gopki.Lemmas.AdmRound
/-! # C16 — admission extension is the CommonPKI AdmissionSyntax of the configured content

The encoder (`Cert.admissionTlv` and friends) is tied to the implementation byte for byte by the `ext`
operation, which also runs the CommonPKI decoder `SpecExt.decAdmission` on the implementation's bytes.
The theorems here fix the tagging decisions of the syntax and state the round trip: that decoder reads back
every configured tree (proved level by level in `Lemmas/AdmRound.lean`). -/
namespace C16
open Der Asn1 Cert

/-- each GeneralName kind gets its own context tag: rfc822Name [1], dNSName [2], URI [6], iPAddress [7] -/
theorem C16_general_name_tags (s : String) (a b c d : UInt8) :
    (∃ x, (GeneralName.rfc822 s).marshal = .prim 0x81 x) ∧ (∃ x, (GeneralName.dns s).marshal = .prim 0x82 x) ∧
    (∃ x, (GeneralName.uri s).marshal = .prim 0x86 x) ∧ (GeneralName.ip a b c d).marshal = .prim 0x87 [a, b, c, d] :=
  ⟨⟨_, rfl⟩, ⟨_, rfl⟩, ⟨_, rfl⟩, rfl⟩

/-- the configuration's four authority kinds are converted to those kinds (`mail` ↦ rfc822Name, `url` ↦ URI),
    and an absent authority stays absent -/
theorem C16_convert_kinds (n : String) :
    V1.convertGeneralName ⟨"dns", n⟩ = .ok (some (.dns n)) ∧ V1.convertGeneralName ⟨"mail", n⟩ = .ok (some (.rfc822 n)) ∧
    V1.convertGeneralName ⟨"url", n⟩ = .ok (some (.uri n)) ∧ V1.convertGeneralName ⟨"", n⟩ = .ok none :=
  ⟨rfl, rfl, rfl, rfl⟩

/-- the same, as observed on the running code (regenerated): identifier octets of `convert` on the four kinds -/
theorem C16_convert_kinds_facts :
    Facts.generalNameConvert = [("ip", 0x87), ("dns", 0x82), ("mail", 0x81), ("url", 0x86)] := by rfl

/-- Admissions: the authority goes under [0] EXPLICIT, the naming authority under [1] EXPLICIT, and absent
    optional parts are omitted -/
theorem C16_admissions_tagging (g : GeneralName) :
    admissionsTlv ⟨some g, ⟨[], "", ""⟩, []⟩ = .ok (tSeq [tExplicit 0 g.marshal]) ∧
    admissionsTlv ⟨none, ⟨[], "", "x"⟩, []⟩ = .ok (tSeq [tExplicit 1 (tSeq [tUtf8 "x"])]) ∧
    admissionsTlv ⟨none, ⟨[], "", ""⟩, []⟩ = .ok (tSeq []) := by
  refine ⟨?_, ?_, ?_⟩ <;> rfl

/-- ProfessionInfo: naming authority under [0] EXPLICIT, registration number as PrintableString,
    additional info as OCTET STRING, absent parts omitted -/
theorem C16_profession_info_shape (item : String) (add : Bytes) (hadd : add ≠ []) :
    professionInfoTlv ⟨⟨[], "", ""⟩, [item], [], "", add⟩ = .ok (tSeq [tSeq [tUtf8 item], tOctet add]) := by
  cases add with
  | nil => exact absurd rfl hadd
  | cons x xs => rfl

/-- a registration number that is not a PrintableString is an error, not a silently re-typed string -/
theorem C16_registration_number_checked (s : String) (h : printableValid s = false) : ∃ e, printableR s = .error e := by
  unfold printableR; simp only [h]; exact ⟨_, rfl⟩

/-- **the statement of C16 at model level**: for every admission tree (any number of admissions and profession
    infos, every subset of optional members, every GeneralName kind for both authority fields) with acceptable
    OIDs, IA5 naming-authority URLs and PrintableString registration numbers, `NewAdmission` succeeds, and the
    decoder written from the CommonPKI ASN.1 reads back from the extension value exactly the configured
    authorities, naming authorities (OID, URL, text), profession items, profession OIDs, registration number and
    additional profession info — with absent optional parts absent.  The model's bytes are the implementation's
    on every case of the `ext` operation. -/
theorem C16_admission_roundtrip (critical : Bool) (a : Admission) (h : AdmRound.AdmOk a)
    (hl : (AdmRound.admT a).enc.length < 2 ^ 64) :
    ∃ e, newAdmission critical a = .ok e ∧ e.oid = oidAdmission ∧ e.critical = critical ∧
      SpecExt.decAdmission e.value = some a :=
  ⟨⟨oidAdmission, critical, (AdmRound.admT a).enc⟩, by unfold newAdmission; rw [AdmRound.admissionTlv_eq a h]; rfl, rfl, rfl,
    AdmRound.decAdmission_admT a h hl⟩

/-- two of the inner levels separately (each for all inputs of its level) -/
theorem C16_naming_authority_roundtrip (n : NamingAuthority) (h : AdmRound.NaOk n) :
    namingAuthorityTlv n = .ok (AdmRound.naT n) ∧ SpecExt.decNamingAuthority (AdmRound.naT n) = some n :=
  ⟨AdmRound.namingAuthorityTlv_eq n h, AdmRound.decNamingAuthority_naT n h⟩

theorem C16_profession_info_roundtrip (p : ProfessionInfo) (h : AdmRound.PiOk p) :
    professionInfoTlv p = .ok (AdmRound.piT p) ∧ SpecExt.decProfessionInfo (AdmRound.piT p) = some p :=
  ⟨AdmRound.professionInfoTlv_eq p h, AdmRound.decProfessionInfo_piT p h⟩

/-- non-vacuity: an admission with an IP authority, a text-only naming authority and one profession info
    carrying items only meets the hypotheses -/
example : AdmRound.AdmOk ⟨some (.ip 10 0 0 1), [⟨none, ⟨[], "", "Kammer"⟩, [⟨⟨[], "", ""⟩, ["Arzt"], [], "", []⟩]⟩]⟩ := by
  intro c hc
  simp at hc; subst hc
  refine ⟨⟨Or.inl rfl, by simp [ia5Valid]⟩, ?_⟩
  intro p hp
  simp at hp; subst hp
  exact ⟨⟨Or.inl rfl, by simp [ia5Valid]⟩, by intro o ho; simp at ho, by simp [printableValid]⟩

end C16
