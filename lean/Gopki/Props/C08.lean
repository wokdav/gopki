import Gopki.Model.Merge
import Gopki.Lemmas.GenShape
/-! # C08 — profile merging follows the documented inheritance and override rules

`Merge.merge` mirrors the two Go loops of `config.Merge` including the `handled` / `overridden`
index bookkeeping; `Merge.specMerge` is the statement of C08 over a marked list, without indices.
The refinement proof is in `Gopki.Model.Merge` (`merge_eq_spec`); this file states the property
theorems. -/
namespace Merge

/-- **C08** (refinement): for profile and certificate extension lists of any length the Go loops
    compute exactly what the statement prescribes. -/
theorem C08_merge_eq_spec (prof : List PExt) (c : List Ext) : merge prof c = specMerge prof c :=
  merge_eq_spec prof c

/-- no profile extension shares an OID with a certificate extension: the result is the
    non-optional profile extensions followed by the certificate's own, both in order -/
theorem C08_no_shared_oid (prof : List PExt) (c : List Ext)
    (h : ∀ p ∈ prof, ∀ e ∈ c, e.oid ≠ p.ext.oid) :
    merge prof c = ((prof.filter (fun p => !p.optional)).map (·.ext)) ++ c := by
  rw [merge_eq_spec, specMerge]
  induction prof with
  | nil => simp [specGo, List.filter_map, Function.comp_def]
  | cons p ps ih =>
    -- `p` finds no partner: it is emitted unless optional, and the marks stay as they are
    rw [specGo, take_none _ _ (List.forall_mem_map.mpr (h p List.mem_cons_self)),
      ih fun q hq => h q (List.mem_cons_of_mem _ hq)]
    cases hopt : p.optional <;> simp [hopt]

/-- an empty profile leaves the certificate's extension list as it is -/
theorem C08_empty_profile (c : List Ext) : merge [] c = c :=
  C08_no_shared_oid [] c fun _ hp => nomatch hp

/-- a content-less extension left in the effective list makes signing fail with an error; it is never
    emitted empty and never silently dropped -/
theorem C08_override_needed_fails (ctx : Gen.Context) (iss : Gen.IssuerContext) (alg : Nat)
    (h : Config.Builder.overrideNeeded ∈ ctx.builders) : ∃ e, Gen.signBody ctx iss alg = .error e := by
  refine Except.exists_error fun ⟨tbs, outer, k⟩ hok => ?_
  obtain ⟨_, _, _, hexts, _⟩ := Gen.signBody_ok hok
  obtain ⟨_, hy⟩ := List.ok_of_mapM_ok hexts _ h
  cases hy

/-! non-vacuity: the documentation's example (identical extension not duplicated, override placed,
    optional skipped) evaluated by the kernel -/
example :
    merge [⟨⟨[2,5,29,14], "ski"⟩, false, false⟩, ⟨⟨[2,5,29,17], ""⟩, false, true⟩,
           ⟨⟨[2,5,29,19], "bc"⟩, true, false⟩]
          [⟨[2,5,29,15], "ku"⟩, ⟨[2,5,29,17], "san"⟩, ⟨[2,5,29,14], "ski"⟩]
      = [⟨[2,5,29,17], "san"⟩, ⟨[2,5,29,15], "ku"⟩, ⟨[2,5,29,14], "ski"⟩] := rfl

end Merge
