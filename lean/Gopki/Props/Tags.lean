import Gopki.Generated.Facts
/-! Struct tags and field orders the hand-written encoders and the hash model rely on, as **regenerated
    facts** (reflection over the exported types on every run): the field names, Go types, `asn1:"…"` tags
    and order of `cert.Certificate`, `TbsCertificate`, the policy structs, the admission structs, and of
    the hashed `config.CertificateContent`.  If a tag or the order of fields changes in the source, these
    theorems stop building and the property is reported as no longer shown (with a search for a failing
    input), even before a generated case happens to exercise the field. -/
namespace Tags
open Facts

/-- `Certificate` / `TbsCertificate` / `PublicKeyInfo`: version `[0] EXPLICIT DEFAULT 0`, unique ids `[1]`/`[2]` IMPLICIT OPTIONAL, extensions `[3] EXPLICIT` omitted when empty — what `Gen.tbsTlv` encodes -/
theorem tags_certificate :
    certificateFields =
  [⟨"TBSCertificate", "cert.TbsCertificate", "", ""⟩,
   ⟨"SignatureAlgorithm", "pkix.AlgorithmIdentifier", "", ""⟩,
   ⟨"SignatureValue", "asn1.BitString", "", ""⟩] ∧
    tbsCertificateFields =
  [⟨"Version", "int", "optional,explicit,default:0,tag:0", ""⟩,
   ⟨"SerialNumber", "*big.Int", "", ""⟩,
   ⟨"SignatureAlgorithm", "pkix.AlgorithmIdentifier", "", ""⟩,
   ⟨"Issuer", "pkix.RDNSequence", "", ""⟩,
   ⟨"Validity", "cert.validity", "", ""⟩,
   ⟨"Subject", "pkix.RDNSequence", "", ""⟩,
   ⟨"PublicKey", "cert.PublicKeyInfo", "", ""⟩,
   ⟨"IssuerUniqueId", "asn1.BitString", "optional,tag:1", ""⟩,
   ⟨"SubjectUniqueId", "asn1.BitString", "optional,tag:2", ""⟩,
   ⟨"Extensions", "[]pkix.Extension", "omitempty,optional,explicit,tag:3", ""⟩] ∧
    publicKeyInfoFields =
  [⟨"Algorithm", "pkix.AlgorithmIdentifier", "", ""⟩,
   ⟨"PublicKey", "asn1.BitString", "", ""⟩] :=
  ⟨rfl, rfl, rfl⟩

/-- certificate policies and authority key identifier structs — what `Cert.policyInfoTlv`, `qualifierTlv`, `userNoticeTlv`, `authorityKeyIdentifierTlv` encode -/
theorem tags_policies :
    policyInfoFields =
  [⟨"ObjectIdentifier", "asn1.ObjectIdentifier", "", ""⟩,
   ⟨"Qualifiers", "[]cert.PolicyQualifier", "optional", ""⟩] ∧
    policyQualifierFields =
  [⟨"QualifierId", "asn1.ObjectIdentifier", "", ""⟩,
   ⟨"Cps", "string", "optional,ia5", ""⟩,
   ⟨"UserNotice", "cert.UserNotice", "optional", ""⟩] ∧
    userNoticeFields =
  [⟨"NoticeRef", "cert.NoticeReference", "optional", ""⟩,
   ⟨"ExplicitText", "string", "optional,utf8", ""⟩] ∧
    noticeReferenceFields =
  [⟨"Organization", "string", "utf8", ""⟩,
   ⟨"NoticeNumbers", "[]int", "", ""⟩] ∧
    authorityKeyIdentifierFields =
  [⟨"KeyIdentifier", "[]uint8", "tag:0,optional", ""⟩] :=
  ⟨rfl, rfl, rfl, rfl, rfl⟩

/-- the tag-driven part of the admission encoder (`partialMarshallStruct`) — what `Cert.admissionsTlv`, `namingAuthorityTlv`, `professionInfoTlv` encode -/
theorem tags_admission :
    admissionsFields =
  [⟨"AdmissionAuthority", "cert.GeneralName", "optional,explicit", ""⟩,
   ⟨"NamingAuthority", "cert.NamingAuthority", "tag:1,optional,explicit", ""⟩,
   ⟨"ProfessionInfos", "[]cert.ProfessionInfo", "", ""⟩] ∧
    namingAuthorityFields =
  [⟨"Oid", "asn1.ObjectIdentifier", "optional", ""⟩,
   ⟨"URL", "string", "ia5,optional", ""⟩,
   ⟨"Text", "string", "utf8,optional", ""⟩] ∧
    professionInfoFields =
  [⟨"NamingAuthority", "cert.NamingAuthority", "tag:0,explicit,optional", ""⟩,
   ⟨"ProfessionItems", "[]string", "omitempty,optional", ""⟩,
   ⟨"ProfessionOids", "[]asn1.ObjectIdentifier", "omitempty,optional", ""⟩,
   ⟨"RegistrationNumber", "string", "printable,optional", ""⟩,
   ⟨"AddProfessionInfo", "[]uint8", "omitempty,optional", ""⟩] :=
  ⟨rfl, rfl, rfl⟩

/-- field order and types of the struct `HashSum` marshals — what `Hash.jsonOf` renders -/
theorem tags_hashed_struct :
    certificateContentFields =
  [⟨"Alias", "string", "", ""⟩,
   ⟨"SerialNumber", "int64", "", ""⟩,
   ⟨"IssuerUniqueId", "asn1.BitString", "", ""⟩,
   ⟨"SubjectUniqueId", "asn1.BitString", "", ""⟩,
   ⟨"Profile", "string", "", ""⟩,
   ⟨"Subject", "pkix.RDNSequence", "", ""⟩,
   ⟨"Issuer", "string", "", ""⟩,
   ⟨"Validity", "config.CertificateValidity", "", ""⟩,
   ⟨"KeyAlgorithm", "cert.KeyAlgorithm", "", ""⟩,
   ⟨"SignatureAlgorithm", "cert.SignatureAlgorithm", "", ""⟩,
   ⟨"Extensions", "[]config.ExtensionConfig", "", ""⟩,
   ⟨"Manipulations", "config.Manipulations", "", ""⟩] ∧
    certificateValidityFields =
  [⟨"From", "time.Time", "", ""⟩,
   ⟨"Until", "time.Time", "", ""⟩,
   ⟨"IsStatic", "bool", "", ""⟩,
   ⟨"IsSet", "bool", "", ""⟩] ∧
    manipulationsFields =
  [⟨"Version", "*int", "", ""⟩,
   ⟨"SignatureAlgorithm", "*pkix.AlgorithmIdentifier", "", ""⟩,
   ⟨"SignatureValue", "*asn1.BitString", "", ""⟩,
   ⟨"TbsSignature", "*pkix.AlgorithmIdentifier", "", ""⟩,
   ⟨"TbsPublicKeyAlgorithm", "*pkix.AlgorithmIdentifier", "", ""⟩,
   ⟨"TbsPublicKey", "*asn1.BitString", "", ""⟩] :=
  ⟨rfl, rfl, rfl⟩

end Tags
