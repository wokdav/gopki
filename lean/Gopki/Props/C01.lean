import Gopki.Abs.Conv3
import Gopki.Abs.Conv4
import Gopki.Base.Forest2
import Gopki.Lemmas.CertRound
import Gopki.Lemmas.GenShape
/-! # C01 — every issued certificate verifies under, and names, its issuer's certificate

Here: model-level theorems about `Gen.signBody` / `Db.generateArtifacts` (what one signature covers and
names).  The file-level theorems about whole runs are obligations of C01 too and stand where they are proved:
`Conv.run_converges` (`Abs/Conv.lean`: a default run from any state satisfying the invariant does not fail,
regenerates exactly the needed entities, and afterwards every hash-carrying certificate chains to the certificate
its issuer *ends* the run with) and `Forest.bfs_main` (`Base/Forest.lean`: issuers are handled before the entities
they sign). -/
namespace C01
open Gen Config

/-- a signature algorithm that does not fit the signing key's type makes signing fail -/
theorem C01_mismatch_fails (ctx : Context) (iss : IssuerContext) (alg : Nat) (k : PrivKey)
    (hk : iss.key = some k) (hmis : k.keyType ≠ ((sigAlgTable[alg]?.map (·.2)).getD 0)) :
    ∃ e, signBody ctx iss alg = .error e := by
  refine Except.exists_error fun ⟨tbs, outer, k'⟩ hok => ?_
  obtain ⟨_, hk', _, _, hty, _⟩ := signBody_ok hok
  cases hk.symm.trans hk'
  exact hmis hty

/-- without a private key of the issuer there is no certificate -/
theorem C01_no_issuer_key_fails (ctx : Context) (iss : IssuerContext) (alg : Nat) (hk : iss.key = none) :
    ∃ e, signBody ctx iss alg = .error e := by
  refine Except.exists_error fun ⟨tbs, outer, k⟩ hok => ?_
  obtain ⟨_, hk', _⟩ := signBody_ok hok
  cases hk.symm.trans hk'

/-- what is signed names the issuer context's DN, is signed with the issuer context's key, and that key
    has the type the algorithm demands; subject and public key are those of the body -/
theorem C01_signs_with_issuer (ctx : Context) (iss : IssuerContext) (alg : Nat) (tbs : Tbs) (outer : AlgId) (k : PrivKey)
    (h : signBody ctx iss alg = .ok (tbs, outer, k)) :
    tbs.issuer = iss.issuerDn ∧ iss.key = some k ∧ k.keyType = ((sigAlgTable[alg]?.map (·.2)).getD 0) ∧ tbs.subject = ctx.tbs.subject ∧
    tbs.spki.bits = ctx.tbs.spki.bits ∧ sigAlgId alg = some outer := by
  obtain ⟨_, hk, ho, _, hty, rfl⟩ := signBody_ok h
  exact ⟨rfl, hk, hty, rfl, rfl, ho⟩

/-- a SHA-1 value is twenty octets, so never empty: the empty SEQUENCE that `authorityKeyIdentifierTlv` keeps for an empty
    identifier does not occur -/
theorem aki_sha1 (bits : Der.Bytes) :
    Cert.authorityKeyIdentifierTlv (Sha1.sum bits) = Asn1.tSeq [.prim 0x80 (Sha1.sum bits)] :=
  if_neg (Bool.eq_false_iff.mp (rfl : (Sha1.sum bits).isEmpty = false))

/-- `aki_sha1` with an alternative that never holds and two arguments that play no part: the `[0]` keyIdentifier carries
    the octets that `C01_ski_is_sha1` puts into the subject key identifier for the same public key bits -/
theorem C01_aki_eq_issuer_ski (c1 c2 : Bool) (bits : Der.Bytes) :
    Cert.authorityKeyIdentifierTlv (Sha1.sum bits) = Asn1.tSeq [.prim 0x80 (Sha1.sum bits)] ∨ (Sha1.sum bits).isEmpty = true :=
  .inl (aki_sha1 bits)

theorem C01_ski_is_sha1 (crit : Bool) (bits : Der.Bytes) :
    Cert.newSubjectKeyIdentifier crit bits = ⟨Cert.oidSubjectKeyId, crit, (Asn1.tOctet (Sha1.sum bits)).enc⟩ := rfl

theorem C01_aki_is_sha1 (crit : Bool) (bits : Der.Bytes) :
    Cert.newAuthorityKeyIdentifierHash crit bits = ⟨Cert.oidAuthorityKeyId, crit, (Cert.authorityKeyIdentifierTlv (Sha1.sum bits)).enc⟩ := rfl

/-- **the issuer DN is byte-identical to the issuer certificate's subject DN**: when the child's body names the
    attribute list that the RFC 5280 reader returns from the issuer's certificate — which is how `GenerateArtifacts`
    builds the issuer context, and by `CertRound.decName_nameTlv` is the list the issuer's certificate was built from —
    then the `issuer` field of the child's DER and the `subject` field of the issuer's DER are the same value, hence
    the same bytes; for names of any length, any attribute types and values -/
theorem C01_issuer_dn_bytes_identical (ti tc : Gen.Tbs) (vi vc : Der.Tlv)
    (hi : Gen.tbsTlv ti = .ok vi) (hc : Gen.tbsTlv tc = .ok vc) (oki : CertWf.TbsOk ti) (okc : CertWf.TbsOk tc)
    (ri : X509.Tbs) (hri : X509.decTbs vi = some ri)
    (hname : X509.decName ri.subject = some tc.issuer) :
    ∃ rc, X509.decTbs vc = some rc ∧ rc.issuer = ri.subject ∧ rc.issuer.enc = ri.subject.enc := by
  obtain ⟨ri', _, _, hri', _, hfi⟩ := CertRound.decTbs_tbsTlv ti vi hi oki
  cases hri.symm.trans hri'
  obtain ⟨rc, _, _, hrc, _, hfc⟩ := CertRound.decTbs_tbsTlv tc vc hc okc
  have h1 : tc.issuer = ti.subject := Option.some.inj (hname.symm.trans hfi.subject)
  have h2 : rc.issuer = ri.subject := Except.ok.inj (hfc.issuerTlv.symm.trans (h1 ▸ hfi.subjectTlv))
  exact ⟨rc, hrc, h2, by rw [h2]⟩

end C01
