import Gopki.Model.V1
import Gopki.Lemmas.PolicyRound
/-! # C07 — structured RFC 5280 extensions encode exactly the configured content

Round trips between the model's encoders (`Gopki.Model.Extensions`, tied to the implementation byte for
byte by the `ext` and `pki` operations) and the decoders written from the RFC's ASN.1 (`Gopki.Spec.Ext`). -/
namespace C07
open Der Asn1 X509 SpecExt PolicyRound

/-- **key usage, complete**: for each of the 128 subsets of the seven flags the value is the DER named bit
    list (trailing zero bits removed, empty list = `03 01 00`) with exactly those bits -/
theorem C07_keyusage_bits : ∀ m ∈ List.range 128,
    decKeyUsage (Cert.keyUsageTlv (2 * m)).enc = some ((List.range 7).filter fun i => (2 * m) / (2 ^ (7 - i)) % 2 = 1) := by
  decide +kernel

/-- the flag names of the configuration language map to the named bits of RFC 5280 -/
theorem C07_keyusage_names : V1.keyUsageMasks.map (fun (n, mask) => (n, (List.range 8).filter fun i => mask / (2 ^ (7 - i)) % 2 = 1)) =
    [("digitalSignature", [0]), ("nonRepudiation", [1]), ("keyEncipherment", [2]), ("dataEncipherment", [3]), ("keyAgreement", [4]),
     ("keyCertSign", [5]), ("crlSign", [6])] := by rfl

theorem decInt_natIntBytes (n : Nat) : decInt (natIntBytes n) = some (n : Int) := NegInt.decInt_natIntBytes n

/-- basic constraints: the CA flag and a non-zero path length are read back; at this level a zero path
    length means "none" (the known finding C07-pathlen-zero is about exactly this) -/
theorem C07_basic_constraints_roundtrip (ca : Bool) (n : Nat) (hn : n < 256 ^ 8) :
    decBasicConstraints (Cert.basicConstraintsTlv ca n).enc = some (ca, if n = 0 then none else some n) := by
  -- without a path length there are two values, which compute
  by_cases h0 : n = 0
  · subst h0; cases ca <;> rfl
  -- at most a BOOLEAN and an INTEGER of at most 9 content octets
  have h9 := natIntBytes_length_le 8 n (by omega)
  have hs : sizeBound (Cert.basicConstraintsTlv ca n) ≤ 50 := by
    cases ca <;> simp [Cert.basicConstraintsTlv, tSeq, tBool, tInt, intBytes, h0] <;> omega
  have hl := enc_length_lt (Cert.basicConstraintsTlv ca n) (by omega)
  have ht : tagsOk (Cert.basicConstraintsTlv ca n) = true := by
    cases ca <;> simp [Cert.basicConstraintsTlv]
  unfold decBasicConstraints
  rw [decodeDer_enc_of_tagsOk _ ht hl]
  cases ca <;> simp [Cert.basicConstraintsTlv, tSeq, h0, tBool, tInt, intBytes, natIntBytes_canonical, decInt_natIntBytes]

/-- key identifiers are carried as they are: OCTET STRING for the subject's, [0] for the authority's -/
theorem C07_ski_roundtrip (k : Bytes) (hk : k.length < 2 ^ 64) : decSki (tOctet k).enc = some k := by
  unfold decSki
  rw [show tOctet k = Tlv.prim 0x04 k from rfl, decodeDer_enc _ (wf_prim 0x04 k ⟨by decide, by decide⟩ hk)]
  rfl

/-- AuthorityKeyIdentifier with an explicit identifier: `[0]` keyIdentifier carries exactly the given octets
    (an empty identifier is the empty SEQUENCE) -/
-- `+ 20`: room for the two headers (tag and length, at most ten octets each) around the identifier
theorem C07_aki_roundtrip (critical : Bool) (k : Bytes) (hk : k.length + 20 < 2 ^ 64) :
    decAki (Cert.newAuthorityKeyIdentifierFromStruct critical k).value = some (if k.isEmpty then none else some k) := by
  unfold Cert.newAuthorityKeyIdentifierFromStruct Cert.authorityKeyIdentifierTlv decAki
  have hp := prim_enc_length_le 0x80 k (by omega)
  by_cases h : k.isEmpty = true
  · rw [if_pos h, if_pos h]; rfl
  · rw [if_neg h, if_neg h, decodeDer_seq_of_tagsOk _ rfl (by simp only [encList, List.append_nil]; omega)]; rfl

/-- **OBJECT IDENTIFIER round trip** (used by every extension that carries OIDs): for every OID Go's
    marshaller accepts, with arcs below 2^63, the content octets decode to the same arcs -/
theorem C07_oid_roundtrip (arcs : List Nat) (hv : oidValid arcs = true) (hb : ∀ a ∈ arcs, a < 2 ^ 63) :
    decOid (oidContent arcs) = some arcs := OidLemmas.decOid_oidContent arcs hv hb

/-- **subjectAlternativeName**: every list of names (mail, DNS, URI as arbitrary strings; IPv4) is read back
    from the extension value with the same kinds and the same bytes -/
theorem C07_san_roundtrip (critical : Bool) (names : List Cert.GeneralName)
    (hl : (encList (names.map Cert.GeneralName.marshal)).length < 2 ^ 64) :
    decSan (Cert.newSubjectAlternativeName critical names).value = some names := by
  unfold decSan Cert.newSubjectAlternativeName
  simp only [decodeDer_seq_of_tagsOk _ (tagsOkList_map tagsOk_marshal) hl]
  exact List.mapM_map_eq_some_self fun g _ => decGeneralName_marshal g

/-- **extendedKeyUsage**: the constructor succeeds on acceptable OIDs and the value is exactly that OID list -/
theorem C07_eku_roundtrip (critical : Bool) (usages : List Cert.Oid) (h : ∀ o ∈ usages, ExtRound.OidOk o)
    (hl : (encList (usages.map tOid)).length < 2 ^ 64) :
    ∃ e, Cert.newExtendedKeyUsage critical usages = .ok e ∧ e.oid = Cert.oidExtendedKeyUsage ∧ e.critical = critical ∧
      decEku e.value = some usages := by
  have hm : usages.mapM Cert.oidR = .ok (usages.map tOid) := List.mapM_eq_pure_map fun o ho => oidR_eq (h o ho)
  refine ⟨⟨_, critical, (tSeq (usages.map tOid)).enc⟩, by unfold Cert.newExtendedKeyUsage; rw [hm]; rfl, rfl, rfl, ?_⟩
  unfold decEku
  simp only [decodeDer_seq_of_tagsOk _ (tagsOkList_map tagsOk_tOid) hl]
  exact List.mapM_map_eq_some_self fun o ho => decOid_of_ok (h o ho)

/-- **authorityInformationAccess**: one AccessDescription per URI, method id-ad-ocsp, location the URI -/
theorem C07_aia_roundtrip (critical : Bool) (uris : List String)
    (hl : (encList (uris.map fun u => tSeq [tOid Cert.oidAiaOcsp, (Cert.GeneralName.uri u).marshal])).length < 2 ^ 64) :
    decAia (Cert.newAuthorityInfoAccess critical uris).value = some (uris.map fun u => (Cert.oidAiaOcsp, Cert.GeneralName.uri u)) := by
  unfold decAia Cert.newAuthorityInfoAccess
  rw [decodeDer_seq_of_tagsOk _ (tagsOkList_map fun _ => rfl) hl]
  refine List.mapM_map_eq_some fun u _ => ?_
  simp only [tSeq, tOid, decOid_of_ok (o := Cert.oidAiaOcsp) ⟨by decide, by decide⟩, decGeneralName_marshal]
  rfl

/-- **INTEGER round trip**, every integer of any size and sign (policy notice numbers, serials, path lengths) -/
theorem C07_int_roundtrip (n : Int) : decInt (intBytes n) = some n := NegInt.decInt_intBytes n

/-- **certificatePolicies**: policies with acceptable OIDs, IA5 CPS URIs and user notices that have some content
    are read back (RFC 5280) exactly: OIDs, qualifier kinds and order, organisation, notice numbers, explicit text.
    `PolicyRound.specPolicy` is the RFC-side view of the configured policy (absent members for empty ones). -/
theorem C07_policies_roundtrip (critical : Bool) (ps : List Cert.PolicyInfo) (h : ∀ p ∈ ps, PolicyRound.PolicyOk p)
    (hl : (tSeq (ps.map PolicyRound.pt)).enc.length < 2 ^ 64) :
    ∃ e, Cert.newCertificatePolicies critical ps = .ok e ∧ e.oid = Cert.oidCertificatePolicies ∧ e.critical = critical ∧
      decPolicies e.value = some (ps.map PolicyRound.specPolicy) := by
  have hm : ps.mapM Cert.policyInfoTlv = .ok (ps.map pt) := List.mapM_eq_pure_map fun p hp => policyInfoTlv_eq p (h p hp)
  refine ⟨⟨_, critical, (tSeq (ps.map pt)).enc⟩, by unfold Cert.newCertificatePolicies; rw [hm]; rfl, rfl, rfl, ?_⟩
  unfold decPolicies
  simp only [decodeDer_enc_of_tagsOk _ (by simp [tagsOk_pt]) hl]
  exact List.mapM_map_eq_some fun p hp => decPolicyInfo_pt p (h p hp)

/-- non-vacuity: a policy with a numbers-only notice meets `PolicyOk` -/
example : PolicyRound.PolicyOk ⟨[2, 5, 29, 32, 0], some [.notice ⟨"", some [1, -1], ""⟩]⟩ := by
  refine ⟨⟨by decide, by decide⟩, ?_⟩
  intro q hq
  simp at hq; subst hq
  show _ = false
  decide

/-- non-vacuity: a two-name SAN and a two-OID EKU meet the hypotheses -/
example : (encList ([Cert.GeneralName.ip 127 0 0 1, .ip 10 0 0 1].map Cert.GeneralName.marshal)).length < 2 ^ 64 := by decide
example : ∀ o ∈ [[1,3,6,1,5,5,7,3,1], [2,5,29,37,0]], ExtRound.OidOk o := by
  intro o ho; simp at ho; rcases ho with rfl | rfl <;> exact ⟨by decide, by decide⟩

end C07
