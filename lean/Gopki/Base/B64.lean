/-! Standard base64 with padding: encoder, strict decoder, the lenient decoder Go uses; round trip for byte strings of any length. -/
namespace B64

def alpha (i : Nat) : UInt8 :=
  if i < 26 then (65 + i).toUInt8 else if i < 52 then (97 + (i - 26)).toUInt8
  else if i < 62 then (48 + (i - 52)).toUInt8 else if i = 62 then 43 else 47

def unalpha (c : UInt8) : Option Nat :=
  let n := c.toNat
  if 65 ≤ n ∧ n ≤ 90 then some (n - 65) else if 97 ≤ n ∧ n ≤ 122 then some (n - 97 + 26)
  else if 48 ≤ n ∧ n ≤ 57 then some (n - 48 + 52) else if n = 43 then some 62 else if n = 47 then some 63 else none

def pad : UInt8 := 61

def enc : List UInt8 → List UInt8
  | [] => []
  | [a] => let n := a.toNat * 65536
           [alpha (n / 262144), alpha (n / 4096 % 64), pad, pad]
  | [a, b] => let n := a.toNat * 65536 + b.toNat * 256
              [alpha (n / 262144), alpha (n / 4096 % 64), alpha (n / 64 % 64), pad]
  | a :: b :: c :: rest =>
    let n := a.toNat * 65536 + b.toNat * 256 + c.toNat
    alpha (n / 262144) :: alpha (n / 4096 % 64) :: alpha (n / 64 % 64) :: alpha (n % 64) :: enc rest

/-- strict decoder: length multiple of four, padding only in the last quantum, zero pad bits -/
def dec : List UInt8 → Option (List UInt8)
  | [] => some []
  | [w, x, y, z] =>
    match unalpha w, unalpha x with
    | some p, some q =>
      if y = pad then
        if z = pad then (if q % 16 = 0 then some [(p * 4 + q / 16).toUInt8] else none) else none
      else match unalpha y with
        | none => none
        | some r =>
          if z = pad then (if r % 4 = 0 then some [(p * 4 + q / 16).toUInt8, (q % 16 * 16 + r / 4).toUInt8] else none)
          else match unalpha z with
            | none => none
            | some t => some [(p * 4 + q / 16).toUInt8, (q % 16 * 16 + r / 4).toUInt8, (r % 4 * 64 + t).toUInt8]
    | _, _ => none
  | w :: x :: y :: z :: rest@(_ :: _) =>
    match unalpha w, unalpha x, unalpha y, unalpha z, dec rest with
    | some p, some q, some r, some t, some out =>
      some ((p * 4 + q / 16).toUInt8 :: (q % 16 * 16 + r / 4).toUInt8 :: (r % 4 * 64 + t).toUInt8 :: out)
    | _, _, _, _, _ => none
  | _ => none

/-- the decoder of Go's `base64.StdEncoding` after CR/LF removal: like `dec`, but non-zero trailing
    bits in the last quantum are tolerated (Go's non-strict mode) -/
def decLenient : List UInt8 → Option (List UInt8)
  | [] => some []
  | [w, x, y, z] =>
    match unalpha w, unalpha x with
    | some p, some q =>
      if y = pad then
        if z = pad then some [(p * 4 + q / 16).toUInt8] else none
      else match unalpha y with
        | none => none
        | some r =>
          if z = pad then some [(p * 4 + q / 16).toUInt8, (q % 16 * 16 + r / 4).toUInt8]
          else match unalpha z with
            | none => none
            | some t => some [(p * 4 + q / 16).toUInt8, (q % 16 * 16 + r / 4).toUInt8, (r % 4 * 64 + t).toUInt8]
    | _, _ => none
  | w :: x :: y :: z :: rest@(_ :: _) =>
    match unalpha w, unalpha x, unalpha y, unalpha z, decLenient rest with
    | some p, some q, some r, some t, some out =>
      some ((p * 4 + q / 16).toUInt8 :: (q % 16 * 16 + r / 4).toUInt8 :: (r % 4 * 64 + t).toUInt8 :: out)
    | _, _, _, _, _ => none
  | _ => none

theorem unalpha_alpha : ∀ i, i < 64 → unalpha (alpha i) = some i := by decide

theorem unalpha_alpha_mod (m : Nat) : unalpha (alpha (m % 64)) = some (m % 64) :=
  unalpha_alpha _ (Nat.mod_lt _ (by decide))

/-- `alpha` has no other values than those at 0 … 63, so what holds of these holds of all: no bound is
    needed for facts about the alphabet (only `unalpha_alpha` needs one) -/
theorem alpha_all (P : UInt8 → Prop) (h : ∀ j : Fin 64, P (alpha j.val)) (i : Nat) : P (alpha i) := by
  by_cases hi : i < 64
  · exact h ⟨i, hi⟩
  · have : alpha i = alpha 63 := by
      unfold alpha
      simp only [show ¬ i < 26 by omega, show ¬ i < 52 by omega, show ¬ i < 62 by omega, show ¬ i = 62 by omega, if_false]
      rfl
    exact this ▸ h ⟨63, by decide⟩

theorem alpha_ne {c : UInt8} (hc : unalpha c = none) (i : Nat) : alpha i ≠ c :=
  alpha_all (· ≠ c) (fun j h => by have := unalpha_alpha j j.2; rw [h, hc] at this; cases this) i

theorem alpha_ne_pad (i : Nat) : alpha i ≠ pad := alpha_ne rfl i

theorem enc_all {P : UInt8 → Bool} (hα : ∀ i, P (alpha i) = true) (hp : P pad = true) (bs : List UInt8) :
    (enc bs).all P = true := by
  fun_induction enc bs <;> simp [*]

/-- the arithmetic of one quantum, once: `n` is the 24-bit group of the octets `a b c`.  Its leading sextet is a
    sextet, the four sextets give the octets back, and the low bits of the second and third sextet are zero
    when the octets after them are padding. -/
theorem group (a b c : UInt8) (n : Nat) (hn : n = a.toNat * 65536 + b.toNat * 256 + c.toNat) :
    n / 262144 < 64 ∧ n / 262144 * 4 + n / 4096 % 64 / 16 = a.toNat ∧ n / 4096 % 64 % 16 * 16 + n / 64 % 64 / 4 = b.toNat ∧
    n / 64 % 64 % 4 * 64 + n % 64 = c.toNat ∧
    (b.toNat = 0 → c.toNat = 0 → n / 4096 % 64 % 16 = 0) ∧ (c.toNat = 0 → n / 64 % 64 % 4 = 0) := by
  have ha := a.toNat_lt; have hb := b.toNat_lt; have hc := c.toNat_lt
  have ⟨e1, e2, e3⟩ : n / 262144 * 4 + n / 4096 % 64 / 16 = a.toNat ∧ n / 4096 % 64 % 16 * 16 + n / 64 % 64 / 4 = b.toNat ∧
      n / 64 % 64 % 4 * 64 + n % 64 = c.toNat := by subst hn; omega
  -- the rest is read off the three equations: `omega` would take half as long again for it
  have zero {x y k : Nat} (h : x * (k + 1) + y = 0) : x = 0 :=
    (Nat.mul_eq_zero.mp (Nat.add_eq_zero_iff.mp h).1).resolve_right (Nat.succ_ne_zero k)
  exact ⟨Nat.lt_of_mul_lt_mul_right (a := 4) (Nat.lt_of_le_of_lt (Nat.le.intro e1) ha), e1, e2, e3,
    fun h _ => zero (e2.trans h), fun h => zero (e3.trans h)⟩

theorem enc_ne_nil (a : UInt8) (l : List UInt8) : enc (a :: l) ≠ [] := by
  rcases l with _ | ⟨_, _ | _⟩ <;> exact List.cons_ne_nil _ _

/-- `dec` on a quantum of four alphabet characters that is not the last one -/
theorem dec_quantum {w x y z : UInt8} {p q r t : Nat} {l out : List UInt8} (hw : unalpha w = some p) (hx : unalpha x = some q)
    (hy : unalpha y = some r) (hz : unalpha z = some t) (hl : l ≠ []) (hd : dec l = some out) :
    dec (w :: x :: y :: z :: l) =
      some ((p * 4 + q / 16).toUInt8 :: (q % 16 * 16 + r / 4).toUInt8 :: (r % 4 * 64 + t).toUInt8 :: out) := by
  cases l with
  | nil => exact absurd rfl hl
  | cons _ _ => simp only [dec, hw, hx, hy, hz, hd]

theorem dec_enc : ∀ (bs : List UInt8), dec (enc bs) = some bs := by
  intro bs
  fun_induction enc bs with
  | case1 => rw [dec]
  | case2 a n =>
    obtain ⟨h1, e1, -, -, z, -⟩ := group a 0 0 n (by simp [n])
    simp only [dec, unalpha_alpha _ h1, unalpha_alpha_mod, e1, z rfl rfl, if_true, UInt8.ofNat_toNat]
  | case3 a b n =>
    obtain ⟨h1, e1, e2, -, -, z⟩ := group a b 0 n (by simp [n])
    simp only [dec, unalpha_alpha _ h1, unalpha_alpha_mod, alpha_ne_pad, e1, e2, z rfl, if_true, if_false,
      UInt8.ofNat_toNat]
  | case4 a b c rest n ih =>
    obtain ⟨h1, e1, e2, e3, -, -⟩ := group a b c n rfl
    cases rest with
    | nil => simp only [enc, dec, unalpha_alpha _ h1, unalpha_alpha_mod, alpha_ne_pad, e1, e2, e3, if_false,
        UInt8.ofNat_toNat]
    | cons d rest =>
      rw [dec_quantum (unalpha_alpha _ h1) (unalpha_alpha_mod _) (unalpha_alpha_mod _) (unalpha_alpha_mod _)
        (enc_ne_nil d rest) ih, e1, e2, e3]
      simp only [UInt8.ofNat_toNat]

/-- the lenient decoder only drops two checks of the strict one -/
theorem decLenient_of_dec (l bs : List UInt8) (h : dec l = some bs) : decLenient l = some bs := by
  -- where `dec` fails there is nothing to show; where it returns, `decLenient` takes the same branch
  fun_induction dec l generalizing bs <;> cases h <;> simp [decLenient, *]

theorem decLenient_enc (bs : List UInt8) : decLenient (enc bs) = some bs := decLenient_of_dec _ _ (dec_enc bs)

end B64
