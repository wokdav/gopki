/-! List facts several proofs share: absorbing folds (plans, worklists), positional folds (big-endian octets, decimal digits). -/
namespace List

/-- a fold started at a fixed point of every step stays there (failed runs, runs with nothing to do) -/
theorem foldl_fixed {α β : Type _} {f : β → α → β} {b : β} (h : ∀ a, f b a = b) (l : List α) : l.foldl f b = b := by
  induction l with
  | nil => rfl
  | cons a l ih => rw [foldl_cons, h, ih]

/-- a positional fold started at `a` is `a` shifted by the number of digits, plus the fold from 0 -/
theorem foldl_digits {α : Type} (B : Nat) (d : α → Nat) (l : List α) (a : Nat) :
    l.foldl (fun a x => a * B + d x) a = a * B ^ l.length + l.foldl (fun a x => a * B + d x) 0 := by
  induction l generalizing a with
  | nil => simp
  | cons b bs ih =>
    simp only [foldl_cons, length_cons]
    rw [ih, ih (0 * B + d b)]
    simp only [Nat.zero_mul, Nat.zero_add, Nat.pow_succ]
    rw [Nat.add_mul, Nat.mul_assoc, Nat.mul_comm B, Nat.add_assoc]

end List
