/-! The issuer forest as the database sees it: entities with an optional issuer alias, `roots`, `subs`, and the worklist
    loop `bfs` of `PlanBulkUpdate`.  `bfs_main`: with fuel `n + 1` the loop ends, visits each alias at most once and a
    parent before its children; the invariant is `Inv`. -/
namespace Forest

variable {α : Type} [DecidableEq α]

/-- entity list in directory-walk order: (alias, issuer alias or none) -/
abbrev Ents (α : Type) := List (α × Option α)

def aliases (es : Ents α) : List α := es.map (·.1)
def roots (es : Ents α) : List α := (es.filter (fun e => e.2 = none)).map (·.1)
def subs (es : Ents α) (a : α) : List α := (es.filter (fun e => e.2 = some a)).map (·.1)

/-- the Go worklist loop `for i < len(todo) { cur := todo[i]; todo = append(todo, subs(cur)...); i++ }`
    with `done = todo[:i]`, `queue = todo[i:]` -/
def bfs (es : Ents α) : Nat → List α → List α → Option (List α)
  | _, done, [] => some done
  | 0, _, _ :: _ => none
  | f+1, done, x :: q => bfs es f (done ++ [x]) (q ++ subs es x)

/-- `x` was put on the list because of `p` (or is a root) -/
def Justified (es : Ents α) (before : List α) (x : α) : Prop :=
  x ∈ roots es ∨ ∃ p ∈ before, x ∈ subs es p

/-- parents precede children -/
def Ordered (es : Ents α) : List α → List α → Prop
  | _, [] => True
  | before, x :: rest => Justified es before x ∧ Ordered es (before ++ [x]) rest

structure Inv (es : Ents α) (done queue : List α) : Prop where
  nodup : (done ++ queue).Nodup
  sub : ∀ x ∈ done ++ queue, x ∈ aliases es
  ordDone : Ordered es [] done
  justQ : ∀ x ∈ queue, Justified es done x
  rootsIn : ∀ x ∈ roots es, x ∈ done ++ queue
  closed : ∀ p ∈ done, ∀ x ∈ subs es p, x ∈ done ++ queue

/-- `roots` and `subs` both select the aliases of the entries with a given issuer field -/
theorem mem_sel {es : Ents α} {i : Option α} {x : α} :
    x ∈ (es.filter (fun e => e.2 = i)).map (·.1) ↔ (x, i) ∈ es := by
  simp only [List.mem_map, List.mem_filter, decide_eq_true_eq]
  constructor
  · rintro ⟨⟨y, j⟩, ⟨hm, rfl⟩, rfl⟩; exact hm
  · intro h; exact ⟨(x, i), ⟨h, rfl⟩, rfl⟩

theorem mem_subs {es : Ents α} {a x : α} : x ∈ subs es a ↔ (x, some a) ∈ es := mem_sel

theorem mem_roots {es : Ents α} {x : α} : x ∈ roots es ↔ (x, none) ∈ es := mem_sel

omit [DecidableEq α] in
theorem mem_aliases {es : Ents α} {x : α} {i : Option α} (h : (x, i) ∈ es) : x ∈ aliases es :=
  List.mem_map.mpr ⟨_, h, rfl⟩

omit [DecidableEq α] in
theorem sel_nodup {es : Ents α} (hn : (aliases es).Nodup) (p : α × Option α → Bool) :
    ((es.filter p).map (·.1)).Nodup := hn.sublist (List.filter_sublist.map _)

omit [DecidableEq α] in
theorem issuer_unique {es : Ents α} (hn : (aliases es).Nodup) {x : α} {i j : Option α}
    (hi : (x, i) ∈ es) (hj : (x, j) ∈ es) : i = j :=
  -- the aliases are pairwise different, so two entries with the same alias are the same entry
  have hp : es.Pairwise fun a b => a.1 ≠ b.1 := List.pairwise_map.mp hn
  (Prod.mk.inj (List.Pairwise.forall_of_forall_of_flip (R := fun a b => a.1 = b.1 → a = b) (fun _ _ _ => rfl)
    (hp.imp fun h e => absurd e h) (hp.imp fun h e => absurd e.symm h) hi hj rfl)).2

theorem ordered_append_iff {es : Ents α} {b l l' : List α} :
    Ordered es b (l ++ l') ↔ Ordered es b l ∧ Ordered es (b ++ l) l' := by
  induction l generalizing b with
  | nil => simp [Ordered]
  | cons y l ih => simp only [List.cons_append, Ordered, ih, and_assoc, List.append_assoc, List.nil_append]

theorem justified_mono {es : Ents α} {b b' : List α} {x : α} (h : ∀ y ∈ b, y ∈ b')
    (hj : Justified es b x) : Justified es b' x :=
  hj.imp_right fun ⟨p, hp, hx⟩ => ⟨p, h p hp, hx⟩

theorem Inv.justified {es : Ents α} {done queue : List α} (h : Inv es done queue) {y : α}
    (hy : y ∈ done ++ queue) : Justified es done y := by
  rcases List.mem_append.mp hy with hd | hq
  · obtain ⟨l, l', rfl⟩ := List.append_of_mem hd
    exact justified_mono (fun _ hz => List.mem_append_left _ hz) (ordered_append_iff.mp h.ordDone).2.1
  · exact h.justQ y hq

theorem inv_step {es : Ents α} (hn : (aliases es).Nodup) {done q : List α} {x : α}
    (h : Inv es done (x :: q)) : Inv es (done ++ [x]) (q ++ subs es x) := by
  have hmem : ∀ {y}, y ∈ done ++ [x] ++ (q ++ subs es x) ↔ y ∈ done ++ x :: q ∨ y ∈ subs es x := by
    simp only [List.mem_append, List.mem_cons, List.not_mem_nil, or_false, or_assoc, implies_true]
  have hup : ∀ {y}, y ∈ done ++ x :: q → y ∈ done ++ [x] ++ (q ++ subs es x) := fun hy => hmem.mpr (.inl hy)
  -- a subscriber of `x` is new: listed, it would be a root or have its one issuer `x` in `done` already
  have hdisj : ∀ y ∈ subs es x, y ∉ done ++ x :: q := by
    intro y hy hmem
    rcases h.justified hmem with hr | ⟨p, hp, hyp⟩
    · cases issuer_unique hn (mem_subs.mp hy) (mem_roots.mp hr)
    · cases issuer_unique hn (mem_subs.mp hy) (mem_subs.mp hyp)
      exact (List.nodup_append.mp h.nodup).2.2 x hp x List.mem_cons_self rfl
  refine ⟨?_, ?_, ?_, ?_, fun y hy => hup (h.rootsIn y hy), ?_⟩
  · rw [show done ++ [x] ++ (q ++ subs es x) = (done ++ x :: q) ++ subs es x by simp]
    exact List.nodup_append.mpr ⟨h.nodup, sel_nodup hn _, fun a ha b hb hab => hdisj b hb (hab ▸ ha)⟩
  · intro y hy
    rcases hmem.mp hy with h1 | h1
    · exact h.sub y h1
    · exact mem_aliases (mem_subs.mp h1)
  · exact ordered_append_iff.mpr ⟨h.ordDone, h.justQ x List.mem_cons_self, trivial⟩
  · intro y hy
    rcases List.mem_append.mp hy with hq | hs
    · exact justified_mono (fun _ hz => List.mem_append_left _ hz) (h.justQ y (List.mem_cons_of_mem _ hq))
    · exact Or.inr ⟨x, List.mem_append_right _ List.mem_cons_self, hs⟩
  · intro p hp y hy
    rcases List.mem_append.mp hp with hd | hx
    · exact hup (h.closed p hd y hy)
    · obtain rfl := List.mem_singleton.mp hx; exact hmem.mpr (.inr hy)

/-- the loop terminates within `n+1 - |done|` steps and its result satisfies the invariant with an empty queue -/
theorem bfs_total {es : Ents α} (hn : (aliases es).Nodup) (fuel : Nat) (done queue : List α) (h : Inv es done queue)
    (hf : (aliases es).length + 1 ≤ done.length + fuel) :
    ∃ v, bfs es fuel done queue = some v ∧ Inv es v [] := by
  fun_induction bfs es fuel done queue with
  | case1 _ done => exact ⟨done, rfl, h⟩
  | case2 done x q =>
    -- out of fuel with the queue not empty: more distinct aliases would be listed than there are
    have := h.nodup.length_le_of_subset (fun x hx => h.sub x hx)
    rw [List.length_append] at this; omega
  | case3 f done x q ih =>
    exact ih (inv_step hn h) (by rw [List.length_append, List.length_singleton]; omega)

theorem inv_init (es : Ents α) (hn : (aliases es).Nodup) : Inv es [] (roots es) :=
  ⟨sel_nodup hn _, fun _ hx => mem_aliases (mem_roots.mp hx), trivial, fun _ hx => Or.inl hx, fun _ hx => hx, nofun⟩

/-- Main: for distinct aliases the worklist loop always terminates (fuel = n+1), visits each listed alias
    once, parents before children, and the visited set is closed under "root" and "subscriber of". -/
theorem bfs_main (es : Ents α) (hn : (aliases es).Nodup) :
    ∃ v, bfs es ((aliases es).length + 1) [] (roots es) = some v ∧
      v.Nodup ∧ (∀ x ∈ v, x ∈ aliases es) ∧ Ordered es [] v ∧
      (∀ x ∈ roots es, x ∈ v) ∧ (∀ p ∈ v, ∀ x ∈ subs es p, x ∈ v) := by
  obtain ⟨v, hv, hi⟩ := bfs_total hn ((aliases es).length + 1) [] (roots es) (inv_init es hn) (by simp)
  obtain ⟨h1, h2, h3, _, h5, h6⟩ := hi
  rw [List.append_nil] at h1 h2 h5 h6
  exact ⟨v, hv, h1, h2, h3, h5, h6⟩

end Forest
