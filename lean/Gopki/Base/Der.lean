import Gopki.Base.ListAux
/-! DER as a tree: `Tlv`, the encoder `enc` (either form is tag, length, content: `Tlv.enc_eq`), the strict fuelled decoder
    `dec` (low-tag form, minimal lengths of at most eight octets, i.e. below 2^64), well-formedness `wf`; before them the
    big-endian octets of a number (`natBE`, read back by `beNat`) with what the length octets need of them.
    That the decoder is sound and complete is `Base/DerProof.lean`. -/
namespace Der

abbrev Bytes := List UInt8

/-- big-endian base-256 digits, minimal (no leading zero), `0 ↦ []` -/
def natBE : Nat → List UInt8
  | 0 => []
  | n+1 => natBE ((n+1) / 256) ++ [((n+1) % 256).toUInt8]
decreasing_by omega

def beNat (bs : List UInt8) : Nat := bs.foldl (fun a b => a * 256 + b.toNat) 0

theorem beNat_snoc (a : List UInt8) (b : UInt8) : beNat (a ++ [b]) = beNat a * 256 + b.toNat := by
  simp [beNat]

theorem beNat_cons (b : UInt8) (bs : List UInt8) : beNat (b :: bs) = b.toNat * 256 ^ bs.length + beNat bs := by
  simpa [beNat] using List.foldl_digits 256 UInt8.toNat bs (0 * 256 + b.toNat)

theorem beNat_replicate_zero (k : Nat) (bs : List UInt8) : beNat (List.replicate k 0 ++ bs) = beNat bs := by
  induction k with
  | zero => simp
  | succ k ih => rw [List.replicate_succ, List.cons_append, beNat_cons, ih]; simp

theorem beNat_natBE (n : Nat) : beNat (natBE n) = n := by
  induction n using Nat.strongRecOn with
  | _ n ih =>
    cases n with
    | zero => simp [natBE, beNat]
    | succ k =>
      rw [natBE, beNat_snoc, ih _ (Nat.div_lt_self (Nat.succ_pos k) (by decide)),
        UInt8.toNat_ofNat_of_lt' (Nat.mod_lt _ (by decide)), Nat.div_add_mod']

theorem natBE_length_pos {n : Nat} (h : 0 < n) : 0 < (natBE n).length := by
  cases n with
  | zero => cases h
  | succ k => rw [natBE, List.length_append]; exact Nat.succ_pos _

theorem natBE_ne_nil {n : Nat} (h : 0 < n) : natBE n ≠ [] := List.ne_nil_of_length_pos (natBE_length_pos h)

theorem natBE_head_ne_zero (n : Nat) : ∀ b, (natBE n).head? = some b → b ≠ 0 := by
  induction n using Nat.strongRecOn with
  | _ n ih =>
    cases n with
    | zero => simp [natBE]
    | succ k =>
      intro b hb
      rw [natBE] at hb
      by_cases hq : (k+1) / 256 = 0
      · -- a single digit, `k + 1` itself
        have hk : k + 1 < 256 := Nat.lt_of_div_eq_zero (by decide) hq
        rw [hq, natBE, List.nil_append, List.head?_cons, Option.some.injEq, Nat.mod_eq_of_lt hk] at hb
        intro h0
        have := congrArg UInt8.toNat (hb.trans h0)
        rw [UInt8.toNat_ofNat_of_lt' hk] at this
        cases this
      · -- the first digit is that of the quotient
        obtain ⟨x, xs, hl⟩ := List.exists_cons_of_length_pos (natBE_length_pos (Nat.pos_of_ne_zero hq))
        exact ih _ (Nat.div_lt_self (Nat.succ_pos k) (by decide : 1 < 256)) b (by rw [hl] at hb ⊢; exact hb)

theorem natBE_snoc (n : Nat) (b : UInt8) (h : n * 256 + b.toNat ≠ 0) : natBE (n * 256 + b.toNat) = natBE n ++ [b] := by
  obtain ⟨k, hk⟩ := Nat.exists_eq_add_one_of_ne_zero h
  have hb : b.toNat < 256 := b.toNat_lt
  rw [hk, natBE, ← hk, Nat.mul_comm, Nat.mul_add_div (by decide), Nat.mul_add_mod, Nat.div_eq_of_lt hb]
  simp

theorem natBE_beNat (bs : List UInt8) (h : bs.head? ≠ some 0) : natBE (beNat bs) = bs := by
  obtain ⟨r, rfl⟩ : ∃ r, bs = r.reverse := ⟨bs.reverse, (List.reverse_reverse bs).symm⟩
  induction r with
  | nil => simp [beNat, natBE]
  | cons b r ih =>
    rw [List.reverse_cons] at h ⊢
    generalize r.reverse = xs at h ih ⊢
    have ih := ih (by cases xs with | nil => nofun | cons y ys => exact h)
    rw [beNat_snoc, natBE_snoc, ih]
    -- were the value zero, `xs` would be empty (by `ih`) and `b`, then the head, zero
    intro h0
    obtain ⟨h1, h2⟩ := Nat.add_eq_zero_iff.mp h0
    have hx : xs = [] := by rw [← ih, (Nat.mul_eq_zero.mp h1).resolve_right (by decide), natBE]
    subst hx
    exact h (congrArg some (UInt8.toNat_inj.mp h2))

theorem natBE_length_le (k : Nat) : ∀ n, n < 256 ^ k → (natBE n).length ≤ k := by
  induction k with
  | zero => intro n hn; rw [Nat.lt_one_iff.mp hn, natBE]; exact Nat.le_refl 0
  | succ k ih =>
    intro n hn
    cases n with
    | zero => rw [natBE]; exact Nat.zero_le _
    | succ m =>
      rw [natBE, List.length_append]
      exact Nat.succ_le_succ (ih _ (Nat.div_lt_of_lt_mul (Nat.mul_comm .. ▸ hn)))

def encLen (n : Nat) : Bytes :=
  if n < 128 then [n.toUInt8] else
    let bs := natBE n
    (0x80 + bs.length).toUInt8 :: bs

/-- strict DER length decoding: returns (length, rest) -/
def decLen : Bytes → Option (Nat × Bytes)
  | [] => none
  | b :: rest =>
    if b < 128 then some (b.toNat, rest)
    else
      let k := b.toNat - 128
      if k = 0 ∨ k > 8 then none else   -- Go: lengths > 4 bytes... we allow 8
      if rest.length < k then none else
      let lb := rest.take k
      let n := beNat lb
      if lb.head? = some 0 then none     -- non-minimal: leading zero
      else if n < 128 then none          -- non-minimal: long form for short length
      else some (n, rest.drop k)

inductive Tlv where
  | prim (tag : UInt8) (content : Bytes)
  | cons (tag : UInt8) (children : List Tlv)
deriving Repr

mutual
def Tlv.enc : Tlv → Bytes
  | .prim t c => t :: (encLen c.length ++ c)
  | .cons t cs => t :: (encLen (encList cs).length ++ encList cs)
def encList : List Tlv → Bytes
  | [] => []
  | x :: xs => x.enc ++ encList xs
end

/-- identifier octet and content octets of a value: both forms are written as tag, length of the content, content -/
def Tlv.tag : Tlv → UInt8
  | .prim t _ | .cons t _ => t
def Tlv.content : Tlv → Bytes
  | .prim _ c => c
  | .cons _ cs => encList cs

theorem Tlv.enc_eq (t : Tlv) : t.enc = t.tag :: (encLen t.content.length ++ t.content) := by
  cases t <;> rw [Tlv.enc] <;> rfl

def isCons (t : UInt8) : Bool := t &&& 0x20 != 0

mutual
def Tlv.wf : Tlv → Bool
  | .prim t c => !isCons t && (t &&& 0x1f != 0x1f) && c.length < 2^64
  | .cons t cs => isCons t && (t &&& 0x1f != 0x1f) && (encList cs).length < 2^64 && wfList cs
def wfList : List Tlv → Bool
  | [] => true
  | x :: xs => x.wf && wfList xs
end

mutual
def dec : Nat → Bytes → Option (Tlv × Bytes)
  | 0, _ => none
  | fuel+1, bs =>
    match bs with
    | [] => none
    | t :: r =>
      if t &&& 0x1f = 0x1f then none else
      match decLen r with
      | none => none
      | some (n, r2) =>
        if r2.length < n then none else
        let body := r2.take n
        let rest := r2.drop n
        if isCons t then
          match decList fuel body with
          | none => none
          | some cs => some (.cons t cs, rest)
        else some (.prim t body, rest)
def decList : Nat → Bytes → Option (List Tlv)
  | 0, _ => none
  | fuel+1, bs =>
    match bs with
    | [] => some []
    | _ :: _ =>
      match dec fuel bs with
      | none => none
      | some (x, rest) =>
        match decList fuel rest with
        | none => none
        | some xs => some (x :: xs)
end

#eval dec 10 (Tlv.cons 0x30 [.prim 2 [1], .cons 0x31 [.prim 5 []]]).enc
end Der
