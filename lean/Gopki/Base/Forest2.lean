import Gopki.Base.Forest
/-! C18: `IsConsistent` (count of visited = number of entities) holds exactly when every
    entity reaches a root through defined issuers — i.e. no dangling issuer and no cycle. -/
namespace Forest
variable {α : Type} [DecidableEq α]

/-- `a` has a finite issuer chain ending in a self-signed entity, all links defined -/
inductive Rooted (es : Ents α) : α → Prop
  | root {a} : (a, none) ∈ es → Rooted es a
  | child {a p} : (a, some p) ∈ es → Rooted es p → Rooted es a

theorem ordered_rooted {es : Ents α} {before l : List α} (hb : ∀ x ∈ before, Rooted es x)
    (h : Ordered es before l) : ∀ x ∈ l, Rooted es x := by
  induction l generalizing before with
  | nil => nofun
  | cons y l ih =>
    have hyR : Rooted es y := by
      rcases h.1 with hr | ⟨p, hp, hyp⟩
      · exact .root (mem_roots.mp hr)
      · exact .child (mem_subs.mp hyp) (hb p hp)
    intro x hx
    rcases List.mem_cons.mp hx with rfl | hx
    · exact hyR
    · refine ih (fun z hz => ?_) h.2 x hx
      rcases List.mem_append.mp hz with hz | hz
      · exact hb z hz
      · rw [List.mem_singleton.mp hz]; exact hyR

theorem rooted_visited {es : Ents α} {v : List α}
    (hr : ∀ x ∈ roots es, x ∈ v) (hc : ∀ p ∈ v, ∀ x ∈ subs es p, x ∈ v) :
    ∀ a, Rooted es a → a ∈ v := by
  intro a h
  induction h with
  | root h => exact hr _ (mem_roots.mpr h)
  | child h _ ih => exact hc _ ih _ (mem_subs.mpr h)

omit [DecidableEq α] in
/-- a duplicate-free list of members of `m`, as long as `m`, leaves nothing of `m` out: one more element would make it too long -/
theorem sub_of_length_eq {l m : List α} (hl : l.Nodup) (hs : ∀ x ∈ l, x ∈ m)
    (hlen : l.length = m.length) : ∀ x ∈ m, x ∈ l := by
  intro x hx
  refine Classical.byContradiction fun hxl => ?_
  have := (List.nodup_cons.mpr ⟨hxl, hl⟩).length_le_of_subset (List.cons_subset.mpr ⟨hx, fun y hy => hs y hy⟩)
  rw [List.length_cons] at this; omega

/-- C18: with distinct aliases, the consistency count succeeds iff every entity is rooted -/
theorem consistent_iff (es : Ents α) (hn : (aliases es).Nodup) :
    ∃ v, bfs es ((aliases es).length + 1) [] (roots es) = some v ∧
      (v.length = (aliases es).length ↔ ∀ a ∈ aliases es, Rooted es a) := by
  obtain ⟨v, hv, hnd, hsub, hord, hroots, hclosed⟩ := bfs_main es hn
  refine ⟨v, hv, ?_⟩
  have hvR : ∀ x ∈ v, Rooted es x := ordered_rooted (before := []) (fun _ h => absurd h List.not_mem_nil) hord
  constructor
  · intro hlen a ha
    exact hvR a (sub_of_length_eq hnd hsub hlen a ha)
  · intro hall
    have h1 := hnd.length_le_of_subset (fun x hx => hsub x hx)
    have h2 := hn.length_le_of_subset (fun a ha => rooted_visited hroots hclosed a (hall a ha))
    omega

end Forest
