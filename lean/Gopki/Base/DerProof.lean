import Gopki.Base.Der
/-! The strict DER decoder of `Base/Der.lean` against the encoder: lengths (`decLen_sound`, `decLen_encLen`), soundness
    (`dec_sound`: what `dec` accepts re-encodes to the bytes it was given) and completeness (`dec_enc`: every well-formed
    value is read back from its encoding, with fuel `need`), each for `dec` and `decList` at once by induction on the fuel. -/
namespace Der

theorem decLen_sound (r : Bytes) (n : Nat) (r2 : Bytes) (h : decLen r = some (n, r2)) :
    r = encLen n ++ r2 := by
  cases r with
  | nil => cases h
  | cons b rest =>
    by_cases hb : b < 128
    · simp only [decLen, hb, if_true, Option.some.injEq, Prod.mk.injEq] at h
      obtain ⟨rfl, rfl⟩ := h
      have hb : b.toNat < 128 := UInt8.lt_iff_toNat_lt.mp hb
      simp [encLen, hb]
    · simp only [decLen, hb, if_false, Option.ite_none_left_eq_some, Option.some.injEq, Prod.mk.injEq] at h
      obtain ⟨hk, hlen, hhead, hn, rfl, rfl⟩ := h
      have hb' : 128 ≤ b.toNat := UInt8.le_iff_toNat_le.mp (UInt8.not_lt.mp hb)
      have hl : (List.take (b.toNat - 128) rest).length = b.toNat - 128 := List.length_take_of_le (Nat.le_of_not_lt hlen)
      have hbb : (128 + (b.toNat - 128)).toUInt8 = b := by rw [Nat.add_sub_cancel' hb']; simp
      simp only [encLen, hn, if_false, natBE_beNat _ hhead, hl, hbb, List.cons_append, List.take_append_drop]

theorem take_append_drop' (n : Nat) (l : Bytes) : l.take n ++ l.drop n = l := List.take_append_drop n l

/-- soundness, for both decoders at once, by induction on the fuel they share -/
theorem sound_fuel (fuel : Nat) : (∀ bs t rest, dec fuel bs = some (t, rest) → t.enc ++ rest = bs) ∧
    (∀ bs ts, decList fuel bs = some ts → encList ts = bs) := by
  induction fuel with
  | zero => exact ⟨nofun, nofun⟩
  | succ fuel ih =>
    refine ⟨fun bs t rest h => ?_, fun bs ts h => ?_⟩
    · cases bs with
      | nil => cases h
      | cons tag r =>
        cases hlen : decLen r with
        | none => simp [dec, hlen] at h
        | some p =>
          obtain ⟨n, r2⟩ := p
          simp only [dec, hlen, Option.ite_none_left_eq_some] at h
          obtain ⟨-, hn, h⟩ := h
          have hn := Nat.le_of_not_lt hn
          have hr := decLen_sound r n r2 hlen
          split at h
          · split at h; · cases h
            rename_i cs hcs
            obtain ⟨rfl, rfl⟩ := Prod.mk.inj (Option.some.inj h)
            simp only [Tlv.enc, ih.2 _ cs hcs, List.length_take, Nat.min_eq_left hn, hr, List.cons_append, List.append_assoc,
              List.take_append_drop]
          · obtain ⟨rfl, rfl⟩ := Prod.mk.inj (Option.some.inj h)
            simp only [Tlv.enc, List.length_take, Nat.min_eq_left hn, hr, List.cons_append, List.append_assoc, List.take_append_drop]
    · cases bs with
      | nil => cases h; rfl
      | cons b r =>
        simp only [decList] at h
        split at h; · cases h
        rename_i x rest hx
        split at h; · cases h
        rename_i xs hxs
        obtain rfl := Option.some.inj h
        rw [encList, ih.2 rest xs hxs, ih.1 _ x rest hx]

theorem dec_sound : ∀ (fuel : Nat) (bs : Bytes) (t : Tlv) (rest : Bytes),
    dec fuel bs = some (t, rest) → t.enc ++ rest = bs := fun fuel => (sound_fuel fuel).1

theorem decList_sound : ∀ (fuel : Nat) (bs : Bytes) (ts : List Tlv),
    decList fuel bs = some ts → encList ts = bs := fun fuel => (sound_fuel fuel).2

theorem decLen_encLen (n : Nat) (hn : n < 2 ^ 64) (r : Bytes) : decLen (encLen n ++ r) = some (n, r) := by
  unfold encLen
  by_cases h : n < 128
  · simp [h, decLen, UInt8.lt_iff_toNat_lt, Nat.mod_eq_of_lt (Nat.lt_trans h (by decide : 128 < 256))]
  · -- long form: the first octet is 0x80 + k for k = 1 … 8 length octets, which are `natBE n`
    have hl8 := natBE_length_le 8 n hn
    have hl0 := natBE_length_pos (n := n) (by omega)
    have hb : (128 + (natBE n).length).toUInt8.toNat = 128 + (natBE n).length := UInt8.toNat_ofNat_of_lt' (by change _ < 256; omega)
    have hk : ¬ ((natBE n).length = 0 ∨ (natBE n).length > 8) := by omega
    have hh : ¬ ((natBE n).head? = some 0) := fun h0 => natBE_head_ne_zero n 0 h0 rfl
    simp only [h, if_false, List.cons_append, decLen, UInt8.lt_iff_toNat_lt, hb, UInt8.toNat_ofNat, Nat.not_lt.mpr (Nat.le_add_right _ _),
      Nat.add_sub_cancel_left, hk, List.length_append, List.take_left', List.drop_left', hh, beNat_natBE]

mutual
def need : Tlv → Nat
  | .prim _ _ => 1
  | .cons _ cs => 1 + needList cs
def needList : List Tlv → Nat
  | [] => 1
  | x :: xs => 1 + max (need x) (needList xs)
end

theorem need_pos : ∀ t, 0 < need t
  | .prim .. => Nat.one_pos
  | .cons .. => Nat.add_pos_left Nat.one_pos _

theorem needList_pos : ∀ ts, 0 < needList ts
  | [] => Nat.one_pos
  | _ :: _ => Nat.add_pos_left Nat.one_pos _

/-- completeness, likewise for both decoders at once; `need t` is fuel that suffices -/
theorem enc_fuel (fuel : Nat) : (∀ t : Tlv, t.wf = true → need t ≤ fuel → ∀ rest, dec fuel (t.enc ++ rest) = some (t, rest)) ∧
    (∀ ts, wfList ts = true → needList ts ≤ fuel → decList fuel (encList ts) = some ts) := by
  induction fuel with
  | zero => exact ⟨fun t _ h => absurd (need_pos t) (Nat.not_lt.mpr h), fun ts _ h => absurd (needList_pos ts) (Nat.not_lt.mpr h)⟩
  | succ f ih =>
    refine ⟨fun t hwf hf rest => ?_, fun ts hwf hf => ?_⟩
    · cases t with
      | prim tg c =>
        simp only [Tlv.wf, Bool.and_eq_true, Bool.not_eq_true', bne_iff_ne, decide_eq_true_eq] at hwf
        obtain ⟨⟨h1, h2⟩, h3⟩ := hwf
        simp [Tlv.enc, dec, h1, h2, decLen_encLen _ h3]
      | cons tg cs =>
        simp only [Tlv.wf, Bool.and_eq_true, bne_iff_ne, decide_eq_true_eq] at hwf
        obtain ⟨⟨⟨h1, h2⟩, h3⟩, h4⟩ := hwf
        rw [need, Nat.add_comm] at hf
        simp [Tlv.enc, dec, h1, h2, decLen_encLen _ h3, ih.2 cs h4 (Nat.le_of_succ_le_succ hf)]
    · cases ts with
      | nil => rfl
      | cons x xs =>
        simp only [wfList, Bool.and_eq_true] at hwf
        rw [needList, Nat.add_comm] at hf
        have hf := Nat.le_of_succ_le_succ hf
        have hx := ih.1 x hwf.1 (Nat.le_trans (Nat.le_max_left _ _) hf) (encList xs)
        have hxs := ih.2 xs hwf.2 (Nat.le_trans (Nat.le_max_right _ _) hf)
        -- `decList` looks at the first octet before it calls `dec`
        simp only [encList, x.enc_eq, List.cons_append, List.append_assoc, decList] at hx ⊢
        simp [hx, hxs]

theorem dec_enc : ∀ (t : Tlv), t.wf = true → ∀ (rest : Bytes) (fuel : Nat), need t ≤ fuel →
    dec fuel (t.enc ++ rest) = some (t, rest) := fun t hwf rest fuel hf => (enc_fuel fuel).1 t hwf hf rest

theorem decList_enc : ∀ (ts : List Tlv), wfList ts = true → ∀ (fuel : Nat), needList ts ≤ fuel →
    decList fuel (encList ts) = some ts := fun ts hwf fuel hf => (enc_fuel fuel).2 ts hwf hf

end Der
