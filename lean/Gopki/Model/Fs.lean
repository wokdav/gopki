import Gopki.Base.Der
/-! The directory the other models assume (`filesystem.Filesystem`): a finite map from relative names to
    contents.  `write` replaces the whole content of exactly one file, `delete` removes exactly one file.
    The native implementation (`nativefs`) is compared with this model by the `fsops` operation. -/
namespace Fs
open Der

abbrev Dir := List (String × Bytes)

def read (d : Dir) (n : String) : Option Bytes := d.lookup n

def isAbs (n : String) : Bool := n.startsWith "/"

/-- `WriteFile`: absolute names are refused; otherwise the file holds exactly the given bytes afterwards -/
def write (d : Dir) (n : String) (c : Bytes) : Except String Dir :=
  if isAbs n then .error "filesystem: absolute path" else .ok ((n, c) :: d.filter (·.1 != n))

/-- `DeleteFile`: absolute names and missing files are errors -/
def delete (d : Dir) (n : String) : Except String Dir :=
  if isAbs n then .error "filesystem: absolute path"
  else if (read d n).isNone then .error "remove: no such file" else .ok (d.filter (·.1 != n))

/-- `Stat`: the size, or an error for a missing file -/
def stat (d : Dir) (n : String) : Except String Nat :=
  match read d n with | some c => .ok c.length | none => .error "stat: no such file"

/-- removing the entries named `n` hides `n` and nothing else -/
theorem lookup_filter (d : Dir) (n m : String) :
    (d.filter (·.1 != n)).lookup m = if m = n then none else d.lookup m := by
  induction d with
  | nil => simp
  | cons x xs ih =>
    obtain ⟨k, v⟩ := x
    by_cases hk : k = n
    · subst hk
      simp only [List.filter_cons, List.lookup_cons, bne_self_eq_false, Bool.false_eq_true, if_false, ih]
      by_cases hm : m = k
      · rw [if_pos hm, if_pos hm]
      · simp only [beq_eq_false_iff_ne.mpr hm]
    · simp only [List.filter_cons, bne_iff_ne.mpr hk, if_true, List.lookup_cons, ih]
      by_cases hm : m = n
      · subst hm; simp only [beq_eq_false_iff_ne.mpr (Ne.symm hk), if_true]
      · simp only [if_neg hm]

theorem write_ok {d d' : Dir} {n : String} {c : Bytes} (h : write d n c = .ok d') :
    d' = (n, c) :: d.filter (·.1 != n) := by
  unfold write at h; split at h <;> cases h; rfl

theorem delete_ok {d d' : Dir} {n : String} (h : delete d n = .ok d') : d' = d.filter (·.1 != n) := by
  unfold delete at h; split at h
  · cases h
  · split at h <;> cases h; rfl

/-- after a successful write the file holds exactly the bytes written — whatever it held before, longer or shorter -/
theorem write_read (d d' : Dir) (n : String) (c : Bytes) (h : write d n c = .ok d') : read d' n = some c := by
  rw [write_ok h, read, List.lookup_cons, beq_self_eq_true]

/-- … and every other file is untouched -/
theorem write_frame (d d' : Dir) (n m : String) (c : Bytes) (h : write d n c = .ok d') (hm : m ≠ n) : read d' m = read d m := by
  rw [write_ok h, read, List.lookup_cons, show (m == n) = false by simpa using hm, lookup_filter, if_neg hm]; rfl

/-- deleting one file leaves every other file as it was -/
theorem delete_frame (d d' : Dir) (n m : String) (h : delete d n = .ok d') (hm : m ≠ n) : read d' m = read d m := by
  rw [delete_ok h, read, lookup_filter, if_neg hm]; rfl

theorem delete_read (d d' : Dir) (n : String) (h : delete d n = .ok d') : read d' n = none := by
  rw [delete_ok h, read, lookup_filter, if_pos rfl]

end Fs
