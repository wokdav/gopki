/-! `config.Merge` with its index bookkeeping (`merge`), the statement of C08 over a marked list (`specMerge`), and the
    refinement `merge_eq_spec`: the bookkeeping is read through the abstraction function `marked`. -/
namespace Merge

structure Ext where
  oid : List Nat
  body : String
deriving DecidableEq, Repr

structure PExt where
  ext : Ext
  optional : Bool
  override : Bool
deriving DecidableEq, Repr

/-! ## Model (mirrors the Go loops, index bookkeeping included) -/

/-- `for i, certExt := range content.Extensions { if handled(i) continue; if oid equal … break }` -/
def findFrom (handled : List Nat) (oid : List Nat) : Nat → List Ext → Option (Nat × Ext)
  | _, [] => none
  | i, e :: es => if ¬ i ∈ handled ∧ e.oid = oid then some (i, e) else findFrom handled oid (i+1) es

structure St where
  handled : List Nat := []
  overridden : List Nat := []
  newExt : List Ext := []

def step (c : List Ext) (s : St) (p : PExt) : St :=
  match findFrom s.handled p.ext.oid 0 c with
  | some (i, ce) =>
    if p.override then
      { handled := s.handled ++ [i], overridden := s.overridden ++ [i], newExt := s.newExt ++ [ce] }
    else if ce ≠ p.ext then
      { s with handled := s.handled ++ [i], newExt := s.newExt ++ [p.ext] }
    else { s with handled := s.handled ++ [i] }
  | none => if !p.optional then { s with newExt := s.newExt ++ [p.ext] } else s

/-- the second Go loop: append every certificate extension that was not overridden -/
def tailFrom (overridden : List Nat) : Nat → List Ext → List Ext
  | _, [] => []
  | i, e :: es => if i ∈ overridden then tailFrom overridden (i+1) es else e :: tailFrom overridden (i+1) es

def merge (prof : List PExt) (c : List Ext) : List Ext :=
  let s := prof.foldl (step c) {}
  s.newExt ++ tailFrom s.overridden 0 c

/-! ## Spec (statement of C08 over a marked list) -/
-- `matched`: a profile extension found this one and it stays in the tail; `placed`: it was overridden, written at the profile's position and dropped from the tail
inductive Mark | free | matched | placed deriving DecidableEq, Repr

def take (oid : List Nat) (m : Mark) : List (Ext × Mark) → Option (Ext × List (Ext × Mark))
  | [] => none
  | (e, k) :: rest =>
    if k = .free ∧ e.oid = oid then some (e, (e, m) :: rest)
    else match take oid m rest with
      | none => none
      | some (f, rest') => some (f, (e, k) :: rest')

def specGo : List PExt → List (Ext × Mark) → List Ext
  | [], cs => (cs.filter (fun x => x.2 ≠ .placed)).map (·.1)
  | p :: ps, cs =>
    match take p.ext.oid (if p.override then .placed else .matched) cs with
    | some (m, cs') =>
      if p.override then m :: specGo ps cs'
      else if m ≠ p.ext then p.ext :: specGo ps cs'
      else specGo ps cs'
    | none => if !p.optional then p.ext :: specGo ps cs else specGo ps cs

def specMerge (prof : List PExt) (c : List Ext) : List Ext := specGo prof (c.map (·, .free))

/-- the mark the index sets give to position `i` (`overridden ⊆ handled` throughout) -/
def markAt (h o : List Nat) (i : Nat) : Mark := if i ∈ o then .placed else if i ∈ h then .matched else .free

/-- the certificate's list from position `k` on, marked as the index sets say: the abstraction function -/
def marked (h o : List Nat) : Nat → List Ext → List (Ext × Mark)
  | _, [] => []
  | k, e :: es => (e, markAt h o k) :: marked h o (k+1) es

theorem marked_congr {h o h' o' : List Nat} (k : Nat) (c : List Ext) (hj : ∀ j, k ≤ j → markAt h' o' j = markAt h o j) :
    marked h' o' k c = marked h o k c := by
  induction c generalizing k with
  | nil => rfl
  | cons e es ih => rw [marked, marked, hj k (Nat.le_refl k), ih (k+1) fun j hkj => hj j (Nat.le_of_succ_le hkj)]

theorem tail_marked (h o : List Nat) (k : Nat) (c : List Ext) :
    tailFrom o k c = ((marked h o k c).filter (fun x => x.2 ≠ .placed)).map (·.1) := by
  induction c generalizing k with
  | nil => rfl
  | cons e es ih =>
    by_cases hk : k ∈ o
    · simp [tailFrom, marked, markAt, hk, ih]
    · by_cases hh : k ∈ h <;> simp [tailFrom, marked, markAt, hk, hh, ih]

theorem markAt_record {h o : List Nat} {i : Nat} {m : Mark} (hsub : ∀ j ∈ o, j ∈ h) (hi : i ∉ h) (hm : m ≠ .free) (j : Nat) :
    markAt (h ++ [i]) (if m = .placed then o ++ [i] else o) j = if j = i then m else markAt h o j := by
  have hio : i ∉ o := fun hc => hi (hsub i hc)
  by_cases hji : j = i
  · subst hji; cases m <;> simp_all [markAt]
  · cases m <;> simp [markAt, hji]

theorem findFrom_some {h oid : List Nat} {i : Nat} {e : Ext} (k : Nat) (c : List Ext)
    (hf : findFrom h oid k c = some (i, e)) : k ≤ i ∧ i ∉ h := by
  induction c generalizing k with
  | nil => cases hf
  | cons _ es ih =>
    rw [findFrom] at hf
    split at hf
    · cases hf; exact ⟨Nat.le_refl _, ‹_ ∧ _›.1⟩
    · exact (ih _ hf).imp_left Nat.le_of_succ_le

theorem take_none {oid : List Nat} (m : Mark) (cs : List (Ext × Mark)) (hx : ∀ x ∈ cs, x.1.oid ≠ oid) :
    take oid m cs = none := by
  induction cs with
  | nil => rfl
  | cons x xs ih =>
    rw [take, if_neg fun h => hx x List.mem_cons_self h.2, ih fun y hy => hx y (List.mem_cons_of_mem _ hy)]

/-- `findFrom` on the index sets and `take` on the marks find the same element, and `take`'s new marks are
    those of the index sets with the position recorded -/
theorem take_marked {h o : List Nat} (hsub : ∀ j ∈ o, j ∈ h) (oid : List Nat) {m : Mark} (hm : m ≠ .free) (k : Nat) (c : List Ext) :
    take oid m (marked h o k c) =
      (findFrom h oid k c).map fun (i, e) => (e, marked (h ++ [i]) (if m = .placed then o ++ [i] else o) k c) := by
  induction c generalizing k with
  | nil => rfl
  | cons e es ih =>
    have hfree : markAt h o k = .free ↔ k ∉ h := by
      by_cases hk : k ∈ h
      · by_cases hko : k ∈ o <;> simp [markAt, hk, hko]
      · simp [markAt, hk, mt (hsub k) hk]
    by_cases hc : k ∉ h ∧ e.oid = oid
    · have hrest := marked_congr (h := h) (o := o) (k+1) es fun j hj => by
        rw [markAt_record hsub hc.1 hm, if_neg (Nat.ne_of_gt hj)]
      simp only [marked, take, findFrom, hfree, hc, not_false_eq_true, and_self, if_true, Option.map_some,
        markAt_record hsub hc.1 hm, hrest]
    · simp only [marked, take, findFrom, hfree, hc, if_false, ih]
      cases hf : findFrom h oid (k+1) es with
      | none => rfl
      | some ie =>
        obtain ⟨hki, hih⟩ := findFrom_some _ _ hf
        simp only [Option.map_some, markAt_record hsub hih hm, if_neg (Nat.ne_of_lt hki)]

/-- one round of the first Go loop is one round of `specGo` on the marked list -/
theorem step_spec (c : List Ext) (s : St) (p : PExt) (ps : List PExt) (hsub : ∀ j ∈ s.overridden, j ∈ s.handled) :
    (∀ j ∈ (step c s p).overridden, j ∈ (step c s p).handled) ∧
    (step c s p).newExt ++ specGo ps (marked (step c s p).handled (step c s p).overridden 0 c) =
      s.newExt ++ specGo (p :: ps) (marked s.handled s.overridden 0 c) := by
  have hm : (if p.override then Mark.placed else Mark.matched) ≠ .free := by cases p.override <;> decide
  rw [specGo, take_marked hsub p.ext.oid hm 0 c, step]
  cases findFrom s.handled p.ext.oid 0 c with
  | none =>
    cases p.optional
    · exact ⟨hsub, List.append_assoc ..⟩
    · exact ⟨hsub, rfl⟩
  | some ie =>
    have hsnoc : ∀ j ∈ s.overridden, j ∈ s.handled ++ [ie.1] := fun j hj => List.mem_append_left _ (hsub j hj)
    cases p.override
    · dsimp only [Option.map_some]
      by_cases hne : ie.2 ≠ p.ext
      · rw [if_pos hne, if_pos hne]
        exact ⟨hsnoc, List.append_assoc ..⟩
      · rw [if_neg hne, if_neg hne]
        exact ⟨hsnoc, rfl⟩
    · exact ⟨fun j hj => (List.mem_append.1 hj).elim (hsnoc j) (List.mem_append_right _), List.append_assoc ..⟩

theorem fold_spec (c : List Ext) (ps : List PExt) (s : St) (hsub : ∀ j ∈ s.overridden, j ∈ s.handled) :
    let s' := ps.foldl (step c) s
    s'.newExt ++ tailFrom s'.overridden 0 c = s.newExt ++ specGo ps (marked s.handled s.overridden 0 c) := by
  induction ps generalizing s with
  | nil => simp only [List.foldl_nil, specGo, tail_marked s.handled]
  | cons p ps ih =>
    obtain ⟨hsub', h⟩ := step_spec c s p ps hsub
    rw [List.foldl_cons, ← h]
    exact ih _ hsub'

theorem marked_init (k : Nat) (c : List Ext) : marked [] [] k c = c.map (·, Mark.free) := by
  induction c generalizing k with
  | nil => rfl
  | cons _ es ih => simp [marked, markAt, ih]

/-- C08, refinement: the index-bookkeeping implementation computes exactly the documented rule,
    for profile and certificate extension lists of any length. -/
theorem merge_eq_spec (prof : List PExt) (c : List Ext) : merge prof c = specMerge prof c := by
  have := fold_spec c prof {} (fun _ hj => nomatch hj)
  simpa [merge, specMerge, marked_init] using this

end Merge
