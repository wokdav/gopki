/-! Model of the path arithmetic in `generator/db/filesystem/filesystem.go`: which files are configurations
    (suffix filter of `importFiles`), the default alias of an entity (`importCertConfigFile`) and the name of its
    artifact file (`fsMetadata.artifactFileName`).  On character lists; core Lean only. -/
namespace Paths

/-- split at the **last** occurrence of `c` (`strings.LastIndex`): what stands before it and what follows it -/
def splitLast (c : Char) : List Char → Option (List Char × List Char)
  | [] => none
  | x :: xs =>
    match splitLast c xs with
    | some (a, b) => some (x :: a, b)
    | none => if x = c then some ([], xs) else none

/-- `configFileName[:strings.LastIndex(configFileName, ".")] + ".pem"`; `none` = no dot (Go would panic; the suffix
    filter guarantees a dot, `isConfigName_split`) -/
def artifactFileName (p : List Char) : Option (List Char) :=
  (splitLast '.' p).map fun (stem, _) => stem ++ ['.', 'p', 'e', 'm']

/-- `path[strings.LastIndex(path, "/")+1 : strings.LastIndex(path, ".")]`: the file's base name -/
def baseAlias (p : List Char) : Option (List Char) :=
  (splitLast '.' p).map fun (stem, _) =>
    match splitLast '/' stem with
    | some (_, file) => file
    | none => stem

def lower (c : Char) : Char := if 'A' ≤ c ∧ c ≤ 'Z' then Char.ofNat (c.toNat + 32) else c

/-- the suffix filter: `.yaml`, `.yml`, `.json` in any letter case -/
def isConfigName (p : List Char) : Bool :=
  let l := p.map lower
  ['.', 'y', 'a', 'm', 'l'].isSuffixOf l || ['.', 'y', 'm', 'l'].isSuffixOf l || ['.', 'j', 's', 'o', 'n'].isSuffixOf l

theorem toNat_ofNat (n : Nat) (hv : n.isValidChar) : (Char.ofNat n).toNat = n := by
  unfold Char.ofNat
  rw [dif_pos hv]
  rfl

theorem splitLast_eq_none_iff (c : Char) (l : List Char) : splitLast c l = none ↔ c ∉ l := by
  induction l with
  | nil => simp [splitLast]
  | cons x xs ih =>
    cases hs : splitLast c xs with
    | some ab => simp [splitLast, hs, show c ∈ xs from Decidable.not_not.mp (mt ih.mpr (by simp [hs]))]
    | none => simp [splitLast, hs, ih.mp hs, eq_comm]

/-- the split is at the last occurrence: nothing after it contains `c` -/
theorem splitLast_append (c : Char) : ∀ (a b : List Char), c ∉ b → splitLast c (a ++ c :: b) = some (a, b) := by
  intro a b h
  induction a with
  | nil => simp [splitLast, (splitLast_eq_none_iff c b).mpr h]
  | cons x a ih => simp [splitLast, ih]

/-- **the artifact is written next to its configuration**: same directory, same stem, suffix `.pem` — whatever the
    directory part and however many dots the stem has -/
theorem artifact_next_to_config (stem ext : List Char) (hext : '.' ∉ ext) :
    artifactFileName (stem ++ '.' :: ext) = some (stem ++ ['.', 'p', 'e', 'm']) := by
  simp [artifactFileName, splitLast_append '.' stem ext hext]

/-- **the default alias is the file's base name, in whatever sub-directory** -/
theorem alias_is_base_name (dir base ext : List Char) (hbase : '/' ∉ base) (hext : '.' ∉ ext) :
    baseAlias (dir ++ '/' :: base ++ '.' :: ext) = some base := by
  rw [baseAlias, splitLast_append '.' _ ext hext]
  simp [splitLast_append '/' dir base hbase]

theorem alias_is_base_name_top (base ext : List Char) (hbase : '/' ∉ base) (hext : '.' ∉ ext) :
    baseAlias (base ++ '.' :: ext) = some base := by
  rw [baseAlias, splitLast_append '.' _ ext hext]
  simp [(splitLast_eq_none_iff '/' base).mpr hbase]

theorem lower_eq {c d : Char} (h : lower c = d) : c = d ∨ (97 ≤ d.toNat ∧ d.toNat ≤ 122) := by
  unfold lower at h
  split at h
  · rename_i hr
    have h1 : 65 ≤ c.toNat := hr.1
    have h2 : c.toNat ≤ 90 := hr.2
    right
    rw [← h, toNat_ofNat _ (.inl (by omega))]
    exact ⟨Nat.add_le_add_right h1 32, Nat.add_le_add_right h2 32⟩
  · exact .inl h

/-- every name the suffix filter lets through is `stem ++ '.' :: ext` with neither a dot nor a slash in `ext`: its last
    dot exists and its last slash stands before it, so the slice expressions in `artifactFileName` and
    `importCertConfigFile` cannot go out of range -/
theorem isConfigName_split (p : List Char) (h : isConfigName p = true) :
    ∃ stem ext, p = stem ++ '.' :: ext ∧ '.' ∉ ext ∧ '/' ∉ ext := by
  obtain ⟨e, he, t, ht⟩ : ∃ e, ('.' ∉ e ∧ '/' ∉ e) ∧ ('.' :: e) <:+ p.map lower := by
    simp only [isConfigName, Bool.or_eq_true, List.isSuffixOf_iff_suffix] at h
    rcases h with (h | h) | h <;> exact ⟨_, by decide, h⟩
  obtain ⟨stem, _, rfl, -, h2⟩ := List.map_eq_append_iff.mp ht.symm
  obtain ⟨c, ext, rfl, hc, rfl⟩ := List.map_eq_cons_iff.mp h2
  -- only a dot is lowered to a dot; a dot or slash in `ext` would be lowered to itself and stand in the suffix
  obtain rfl : c = '.' := (lower_eq hc).resolve_right (by decide)
  exact ⟨stem, ext, rfl, fun hd => he.1 (List.mem_map.mpr ⟨_, hd, rfl⟩), fun hd => he.2 (List.mem_map.mpr ⟨_, hd, rfl⟩)⟩

/-- … so its artifact name and its default alias are defined -/
theorem isConfigName_has_dot (p : List Char) (h : isConfigName p = true) :
    (artifactFileName p).isSome = true ∧ (baseAlias p).isSome = true := by
  obtain ⟨stem, ext, rfl, hext, -⟩ := isConfigName_split p h
  rw [artifact_next_to_config stem ext hext, baseAlias, splitLast_append '.' stem ext hext]
  exact ⟨rfl, rfl⟩

/-- files with other suffixes are not configurations (they are never read, parsed or written) -/
example : isConfigName "notes.txt".toList = false ∧ isConfigName "ca/root.pem".toList = false ∧
    isConfigName "yaml".toList = false ∧ isConfigName "ca/Root.YAML".toList = true ∧ isConfigName "d.Json".toList = true := by
  -- a literal is `String.ofList` of its characters: read off, not decoded from UTF-8
  iterate 5 rw [String.toList_ofList]
  decide

end Paths
