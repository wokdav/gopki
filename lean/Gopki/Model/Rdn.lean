/-! `ParseRDNSequence` on bytes: the comma loop `splitC`, `TrimSpace`, `Split("=")`, the reversed placement; `parse_render`:
    every subject of the documented grammar parses to exactly its pairs. -/
namespace Rdn

abbrev B := List UInt8
def comma : UInt8 := 44
def bslash : UInt8 := 92
def eq : UInt8 := 61
def isSpace (b : UInt8) : Bool := b = 32 ∨ b = 9 ∨ b = 10 ∨ b = 11 ∨ b = 12 ∨ b = 13   -- ASCII part of unicode.IsSpace

/-- the comma-splitting loop of ParseRDNSequence: `prev = none` ⇔ `i == 0` (skipped by `continue`) -/
def splitC : Option UInt8 → B → B → List B
  | _, cur, [] => [cur.reverse]
  | prev, cur, b :: rest =>
    if b = comma ∧ prev.isSome ∧ prev ≠ some bslash then cur.reverse :: splitC (some b) [] rest
    else splitC (some b) (b :: cur) rest

def trimL : B → B
  | [] => []
  | b :: r => if isSpace b then trimL r else b :: r
def trim (x : B) : B := (trimL (trimL x).reverse).reverse

/-- strings.Split(assertion, "=") -/
def splitEq : B → B → List B
  | cur, [] => [cur.reverse]
  | cur, b :: r => if b = eq then cur.reverse :: splitEq [] r else splitEq (b :: cur) r

/-- per-assertion step: trimmed key, raw value (Go trims the whole assertion, then the key again) -/
def assertion (a : B) : Option (B × B) :=
  match splitEq [] (trim a) with
  | [k, v] => some (trim k, v)
  | _ => none

def parse (s : B) : Option (List (B × B)) :=
  ((splitC none [] s).mapM assertion).map List.reverse     -- `out[len(out)-i-1] = …`

/-! ## documented grammar -/
structure Pair where
  k : B
  v : B
  sepL : Nat      -- blanks before the following comma
  sepR : Nat      -- blanks after it

def okKey (k : B) : Prop := k ≠ [] ∧ ∀ b ∈ k, b ≠ comma ∧ b ≠ eq ∧ isSpace b = false ∧ b ≠ bslash
def okVal (v : B) : Prop :=
  v ≠ [] ∧ (∀ b ∈ v, b ≠ comma ∧ b ≠ eq ∧ b ≠ bslash) ∧
  (∀ b, v.head? = some b → isSpace b = false) ∧ (∀ b, v.reverse.head? = some b → isSpace b = false)

def blanks (n : Nat) : B := List.replicate n 32

def render : List Pair → B
  | [] => []
  | [p] => p.k ++ eq :: p.v
  | p :: q :: r => p.k ++ eq :: p.v ++ blanks p.sepL ++ comma :: blanks p.sepR ++ render (q :: r)

def okPair (p : Pair) : Prop := okKey p.k ∧ okVal p.v

/-- `splitC` cuts nothing inside a comma-free stretch; afterwards `prev` is its last byte -/
theorem splitC_append (x : B) (hx : ∀ b ∈ x, b ≠ comma) (y : B) : ∀ (prev : Option UInt8) (cur : B),
    splitC prev cur (x ++ y) = splitC (x.getLast?.or prev) (x.reverse ++ cur) y := by
  induction x with
  | nil => intro prev cur; rfl
  | cons b r ih =>
    intro prev cur
    simp only [List.cons_append, splitC, hx b List.mem_cons_self, false_and, if_false]
    rw [ih fun c hc => hx c (List.mem_cons_of_mem _ hc), List.getLast?_cons]
    cases r.getLast? <;> simp

theorem splitC_nocomma (x : B) (hx : ∀ b ∈ x, b ≠ comma) (prev : Option UInt8) :
    splitC prev [] x = [x] := by
  have := splitC_append x hx [] prev []
  simpa [splitC] using this

theorem splitC_chunk (x : B) (hx : ∀ b ∈ x, b ≠ comma ∧ b ≠ bslash) (hne : x ≠ []) (rest : B) (prev : Option UInt8) :
    splitC prev [] (x ++ comma :: rest) = x :: splitC (some comma) [] rest := by
  obtain ⟨l, hl⟩ := Option.isSome_iff_exists.mp (List.getLast?_isSome.mpr hne)
  rw [splitC_append x (fun b hb => (hx b hb).1), hl]
  simp [splitC, (hx l (List.mem_of_getLast? hl)).2]

theorem splitEq_append (x : B) (hx : ∀ b ∈ x, b ≠ eq) (y : B) : ∀ cur, splitEq cur (x ++ y) = splitEq (x.reverse ++ cur) y := by
  induction x with
  | nil => intro cur; rfl
  | cons b r ih =>
    intro cur
    simp only [List.cons_append, splitEq, hx b List.mem_cons_self, if_false]
    rw [ih fun c hc => hx c (List.mem_cons_of_mem _ hc)]; simp

theorem splitEq_kv (k v : B) (hk : ∀ b ∈ k, b ≠ eq) (hv : ∀ b ∈ v, b ≠ eq) : splitEq [] (k ++ eq :: v) = [k, v] := by
  have := splitEq_append v hv [] []
  rw [splitEq_append k hk]
  simpa [splitEq] using this

theorem head?_append_of_ne_nil {x : B} (y : B) (h : x ≠ []) : (x ++ y).head? = x.head? := by
  cases x with
  | nil => exact absurd rfl h
  | cons _ _ => rfl

theorem eq_ne_32 : (32 : UInt8) ≠ eq := by decide

theorem blanks_mem (n : Nat) : ∀ b ∈ blanks n, b = 32 := fun _ hb => List.eq_of_mem_replicate hb

theorem trimL_eq_dropWhile (x : B) : trimL x = x.dropWhile isSpace := by
  induction x with
  | nil => rfl
  | cons b r ih => simp only [trimL, List.dropWhile_cons, ih]

theorem trimL_blanks (n : Nat) (x : B) : trimL (blanks n ++ x) = trimL x := by
  simp only [trimL_eq_dropWhile]
  exact List.dropWhile_append_of_pos fun b hb => blanks_mem n b hb ▸ (by decide : isSpace 32 = true)

theorem trimL_nonspace (x : B) (h : ∀ b, x.head? = some b → isSpace b = false) : trimL x = x := by
  cases x with
  | nil => rfl
  | cons b r => simp [trimL, h b rfl]

/-- trimming a chunk `blanks a ++ y ++ blanks b` whose core `y` starts and ends with a non-blank -/
theorem trim_core (a b : Nat) (y : B) (hne : y ≠ [])
    (hh : ∀ c, y.head? = some c → isSpace c = false) (hl : ∀ c, y.reverse.head? = some c → isSpace c = false) :
    trim (blanks a ++ y ++ blanks b) = y := by
  have h1 : trimL (y ++ blanks b) = y ++ blanks b :=
    trimL_nonspace _ fun c hc => hh c (by rwa [head?_append_of_ne_nil _ hne] at hc)
  rw [trim, List.append_assoc, trimL_blanks, h1, List.reverse_append, blanks, List.reverse_replicate, ← blanks, trimL_blanks,
    trimL_nonspace _ hl, List.reverse_reverse]

theorem assertion_chunk (a b : Nat) (k v : B) (hk : okKey k) (hv : okVal v) :
    assertion (blanks a ++ (k ++ eq :: v) ++ blanks b) = some (k, v) := by
  obtain ⟨hkne, hkb⟩ := hk
  obtain ⟨hvne, hvb, hvh, hvl⟩ := hv
  have hks : ∀ c ∈ k, isSpace c = false := fun c hc => (hkb c hc).2.2.1
  have hcore : trim (blanks a ++ (k ++ eq :: v) ++ blanks b) = k ++ eq :: v := by
    refine trim_core a b _ (by simp) (fun c hc => ?_) (fun c hc => hvl c ?_)
    · rw [head?_append_of_ne_nil _ hkne] at hc
      exact hks c (List.mem_of_mem_head? hc)
    · have hvr : v.reverse ≠ [] := mt List.reverse_eq_nil_iff.mp hvne
      rwa [List.reverse_append, List.reverse_cons, head?_append_of_ne_nil _ (by simp), head?_append_of_ne_nil _ hvr] at hc
  have hk' : trim k = k := by
    have := trim_core 0 0 k hkne (fun c hc => hks c (List.mem_of_mem_head? hc))
      (fun c hc => hks c (List.mem_reverse.mp (List.mem_of_mem_head? hc)))
    simpa [blanks] using this
  rw [assertion, hcore, splitEq_kv k v (fun b hb => (hkb b hb).2.1) (fun b hb => (hvb b hb).2.1)]
  simp only [hk']

theorem chunk_ne_comma_bslash (p : Pair) (hp : okPair p) (a b : Nat) :
    (∀ c ∈ blanks a ++ (p.k ++ eq :: p.v) ++ blanks b, c ≠ comma ∧ c ≠ bslash) := by
  obtain ⟨⟨_, hk⟩, ⟨_, hv, _, _⟩⟩ := hp
  intro c hc
  simp only [List.mem_append, List.mem_cons] at hc
  rcases hc with (hc | hc | hc | hc) | hc
  · rw [blanks_mem a c hc]; decide
  · exact ⟨(hk c hc).1, (hk c hc).2.2.2⟩
  · subst hc; decide
  · exact ⟨(hv c hc).1, (hv c hc).2.2⟩
  · rw [blanks_mem b c hc]; decide

/-- the comma loop and the per-assertion step together, on a rendered subject preceded by `lead` blanks -/
theorem mapM_split_render (ps : List Pair) (hok : ∀ p ∈ ps, okPair p) (hne : ps ≠ []) (lead : Nat) (prev : Option UInt8) :
    (splitC prev [] (blanks lead ++ render ps)).mapM assertion = some (ps.map (fun p => (p.k, p.v))) := by
  fun_induction render ps generalizing lead prev with
  | case1 => exact absurd rfl hne
  | case2 p =>
    have hp := hok p List.mem_cons_self
    have e : blanks lead ++ (p.k ++ eq :: p.v) = blanks lead ++ (p.k ++ eq :: p.v) ++ blanks 0 := (List.append_nil _).symm
    rw [e, splitC_nocomma _ (fun c hc => (chunk_ne_comma_bslash p hp lead 0 c hc).1), List.mapM_cons,
      assertion_chunk lead 0 p.k p.v hp.1 hp.2]
    rfl
  | case3 p q r ih =>
    have hp := hok p List.mem_cons_self
    have e : blanks lead ++ (p.k ++ eq :: p.v ++ blanks p.sepL ++ comma :: blanks p.sepR ++ render (q :: r)) =
        (blanks lead ++ (p.k ++ eq :: p.v) ++ blanks p.sepL) ++ comma :: (blanks p.sepR ++ render (q :: r)) := by
      simp only [List.append_assoc, List.cons_append]
    rw [e, splitC_chunk _ (chunk_ne_comma_bslash p hp lead p.sepL) (by simp), List.mapM_cons,
      assertion_chunk lead p.sepL p.k p.v hp.1 hp.2,
      ih (fun x hx => hok x (List.mem_cons_of_mem _ hx)) (by simp) p.sepR (some comma)]
    rfl

/-- C03 (string level): every subject of the documented grammar, with any amount of blanks around the
    commas, parses to exactly its pairs, values unchanged, in reversed order. -/
theorem parse_render (ps : List Pair) (hok : ∀ p ∈ ps, okPair p) (hne : ps ≠ []) :
    parse (render ps) = some ((ps.map (fun p => (p.k, p.v))).reverse) := by
  have h := mapM_split_render ps hok hne 0 none
  simp only [blanks, List.replicate_zero, List.nil_append] at h
  rw [parse, h]; rfl

end Rdn
