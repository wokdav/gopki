import Gopki.Generated.Facts
/-! Model of the command line of `gopki sign` (cli/root.go): how the flags select the update strategy (over the
    flag table regenerated from the source), and when the overwrite prompt lets the run proceed. -/
namespace Cli

/-- one command-line word: `-a`, `-ao`, `-m=false`, `--generate-missing=false`, `--generate-all` -/
def applyFlag (tbl : List Facts.Flag) (on : List (String × Bool)) (word : String) : Option (List (String × Bool)) :=
  let cs := word.toList
  let (isLong, body) : Bool × List Char := match cs with
    | '-' :: '-' :: r => (true, r)
    | '-' :: r => (false, r)
    | _ => (false, [])
  if body.isEmpty then none else
  let (nameCs, valCs) := (body.takeWhile (· != '='), (body.dropWhile (· != '=')).drop 1)
  let hasEq := body.contains '='
  let val : Option Bool := if !hasEq then some true else if String.ofList valCs = "true" then some true else if String.ofList valCs = "false" then some false else none
  match val with
  | none => none
  | some v =>
    let set (on : List (String × Bool)) (n : String) : List (String × Bool) := (n, v) :: on.filter (·.1 != n)
    if isLong then
      match tbl.find? (·.name = String.ofList nameCs) with
      | some f => some (set on f.name)
      | none => none
    else
      -- shorthands may be combined (`-ao`)
      nameCs.foldlM (fun acc c => match tbl.find? (·.short = String.singleton c) with
        | some f => some (set acc f.name)
        | none => none) on

/-- the strategy the flags select: defaults from the table, then the words left to right -/
def strategyOf (tbl : List Facts.Flag) (words : List String) : Option Nat :=
  (words.foldlM (applyFlag tbl) (tbl.map fun f => (f.name, f.default))).map fun on =>
    (tbl.filter fun f => (on.lookup f.name).getD false).foldl (fun a f => a ||| f.bit) 0

/-- the answer to `Proceed [y,N]?`: a complete line whose trimmed, lower-cased text is `y` -/
def consents (answer : String) : Bool :=
  let cs := answer.toList
  if !cs.contains '\n' then false else
  let line := cs.takeWhile (· != '\n')
  let isSpace (c : Char) : Bool := c = ' ' || c = '\t' || c = '\r' || c = '\n' || c = '\x0b' || c = '\x0c'
  let trimmed := ((line.dropWhile isSpace).reverse.dropWhile isSpace).reverse
  trimmed.map Char.toLower = ['y']

/-- without flags: generate-missing and generate-changed (the documented default) -/
theorem default_strategy : strategyOf Facts.signFlags [] = some 9 := by decide +kernel

/-- every single flag, switched on, sets exactly its own bit on top of the default; switched off, clears it -/
theorem single_flags :
    strategyOf Facts.signFlags ["-a"] = some 25 ∧ strategyOf Facts.signFlags ["--generate-all"] = some 25 ∧
    strategyOf Facts.signFlags ["-e"] = some 11 ∧ strategyOf Facts.signFlags ["-o"] = some 13 ∧
    strategyOf Facts.signFlags ["-m=false"] = some 8 ∧ strategyOf Facts.signFlags ["-c=false"] = some 1 ∧
    strategyOf Facts.signFlags ["-m=false", "-c=false"] = some 0 := by decide +kernel

/-- only a `y` line consents -/
theorem consent_table :
    consents "y\n" = true ∧ consents "Y\n" = true ∧ consents " y \n" = true ∧ consents "y\r\n" = true ∧
    consents "n\n" = false ∧ consents "\n" = false ∧ consents "" = false ∧ consents "yes\n" = false ∧
    consents "y" = false ∧ consents "yy\n" = false := by decide +kernel

end Cli
